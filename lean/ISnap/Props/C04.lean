import ISnap.Lemmas.SessionLemmas
/-
  C04 — nothing is written without approval; exactly the approved categories apply.
  Decision logic of the gate, stated outright, for every configuration and every pending set.
-/
namespace ISnap.Session
open ISnap

/-- the user approved category `k` in this session: a category flag, or a 'y' in review mode -/
def Approved (c : Cfg) (k : Cat) : Bool := approved c c.flags k

/-- C04 `applied_subset_approved`: whatever is pending, only approved categories are written -/
theorem applied_subset_approved (c : Cfg) (p : Pending) (k : Cat)
    (h : (applied c p).has k = true) : Approved c k = true := by
  rw [applied_has] at h
  simp only [Bool.and_eq_true] at h
  exact h.2.1.2

/-- C04 `flags_resolution`: command line beats the environment variable beats pyproject; the terminal
    decides between default-flags-tui and default-flags -/
theorem flags_resolution (c : Cfg) :
    (∀ l, c.cli = some l → c.flags = l) ∧
    (∀ e, c.cli = none → c.env = some e → c.flags = e) ∧
    (c.cli = none → c.env = none → c.flags = if c.tty then c.defaultFlagsTui else c.defaultFlags) := by
  refine ⟨?_, ?_, ?_⟩
  · intro l h; simp [Cfg.flags, h]
  · intro e h1 h2; simp [Cfg.flags, h1, h2]
  · intro h1 h2; simp [Cfg.flags, h1, h2]

/-- sessions that approve nothing leave everything alone -/
theorem nothing_approved_nothing_written (c : Cfg) (p : Pending)
    (h : (∀ k, Approved c k = false) ∨ c.flags.contains .shortReport = true ∨ c.flags.contains .disable = true ∨
         c.ci = true ∨ c.xdist = true ∨ c.cpython = false) :
    applied c p = Flags.empty := by
  apply Flags.ext_has
  intro k
  rw [applied_has, Flags.has_empty]
  rcases h with h | h | h | h | h | h
  · rw [show approved c c.flags k = false from h k, Bool.and_false, Bool.false_and, Bool.and_false]
  all_goals
    rw [writes, h]
    simp only [Bool.not_true, Bool.not_false, Bool.or_true, Bool.true_or, Bool.and_false, Bool.false_and]

/-- C04 `applied_exact`: in an active session without short-report the written categories are exactly
    the pending ones that are approved (and not hidden by skip-snapshot-updates-for-now) -/
theorem applied_exact (c : Cfg) (p : Pending) (fl : List Flag) (u : Flags)
    (hc : configure c = .ok fl true u) (hx : c.xdist = false) (hci : c.ci = false) (hpy : c.cpython = true)
    (hs : fl.contains .shortReport = false) (k : Cat) :
    (applied c p).has k =
      (p.has k && p.diff k && Approved c k &&
       !(k == .update && c.skipUpdates && !fl.contains (.cat .update))) := by
  rw [configure_eq] at hc
  cases hi : illegal c
  · rw [hi, if_neg Bool.false_ne_true, hx, hci, hpy] at hc
    injection hc with hfl ha
    subst hfl
    cases hd : c.flags.contains .disable
    · rw [applied_has, writes, hi, hx, hci, hpy, hd, hs]; rfl
    · rw [hd] at ha; cases ha
  · rw [hi, if_pos rfl] at hc; cases hc

/-- C04 `illegal_combinations_error`: an unknown flag, `disable` next to another flag, and a flag other than `disable`
    on the command line under xdist are usage errors -/
theorem illegal_combinations_error (c : Cfg) :
    (c.flags.any isUnknown = true → configure c = .usageError) ∧
    (c.flags.contains .disable = true → c.flags.any (· ≠ .disable) = true → configure c = .usageError) ∧
    (c.cli.isSome = true → c.xdist = true → c.flags.any (· ≠ .disable) = true → configure c = .usageError) := by
  refine ⟨?_, ?_, ?_⟩
  · intro h; rw [configure_eq, illegal, h]; simp
  · intro h1 h2; rw [configure_eq, illegal, h1, h2]; simp
  · intro h1 h2 h3; rw [configure_eq, illegal, h1, h2, h3]; simp

/-- xfail-marked tests run with inline-snapshot inactive -/
theorem xfail_inactive (a : Bool) : testActive a true = false := by simp [testActive]

/-! non-vacuity: review answered y for fix only, everything pending -/
def exCfg : Cfg :=
  { cli := some [Flag.review], env := none, tty := false, defaultFlags := [Flag.report],
    defaultFlagsTui := [Flag.cat .create, Flag.review], xdist := false, ci := false,
    answers := fun k => decide (k = Cat.fix) }
def exPending : Pending := { has := fun _ => true, diff := fun _ => true }

example : applied exCfg exPending = { fix := true } := by decide

end ISnap.Session
