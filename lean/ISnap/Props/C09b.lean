import ISnap.Props.C11c
import ISnap.Lemmas.CallCompose
/-
  C09 for constructor calls — the order in which categories are approved does not matter: two runs in a
  row over a call `K(a=…, c=…)` (against the same observed object) leave the keyword list of one run with
  the union of the approved categories.

  The subtle part is the run `update` → `fix`: the first run deletes the keywords whose field holds its
  (unchanged) default, so the second run computes its insert positions from a shorter keyword list.  Since
  fix e4b1c97 a new keyword is put in front of the next *matched* keyword (a keyword of a non-default
  field, which no run deletes), at that keyword's own index — so the result is the same
  (`Lemmas.CallCompose.call_kw_keyed`: the woven list, read off by keyword name, does not depend on indices).

  Hypotheses (all decidable; what the Python adapters produce for a call without star-arguments):
    * keyword names pairwise distinct (Python syntax), field names pairwise distinct;
    * keyword values `Managed`, `WfExpr`; field values `ValOk`, `WfVal` (as in `Assign.run_compose`).
-/
namespace ISnap.CallAssign
open ISnap ISnap.Assign List

/-- the keyword list of the call after a run that approves `F` -/
def runCall (F : Flags) (kw : List (Nat × Expr)) (fields : List Field) : List (Nat × Expr) :=
  (assignCall F kw fields).kw

theorem oldOne_inserted (F : Flags) (kw : List (Nat × Expr)) (fields : List Field)
    (hfn : (fields.map (·.1)).Nodup) (hfv : ∀ f ∈ fields, ValOk f.2.1 ∧ WfVal f.2.1) :
    ∀ q ∈ newKw kw fields, oldOne F fields q = some q := by
  intro q hq
  obtain ⟨v, h1, hm, _⟩ := mem_newKw.1 hq
  rw [oldOne_matched (lookupF_of_mem hfn hm), h1, canon_run F v (gv_of (hfv _ hm).1 (hfv _ hm).2), ← h1]

/-- **C09 for constructor calls.**  Approving `F₁`, running, then approving `F₂` and running again leaves
    the keyword list of a single run that approves both. -/
theorem runCall_compose (F₁ F₂ : Flags) (kw : List (Nat × Expr)) (fields : List Field)
    (hkn : (kw.map (·.1)).Nodup) (hfn : (fields.map (·.1)).Nodup)
    (hkw : ∀ p ∈ kw, Managed p.2 ∧ WfExpr p.2) (hfv : ∀ f ∈ fields, ValOk f.2.1 ∧ WfVal f.2.1) :
    runCall F₂ (runCall F₁ kw fields) fields = runCall (F₁.union F₂) kw fields := by
  have hc := fun p hp => oldOne_compose F₁ F₂ fields p (hkw p hp) hfv
  unfold runCall
  cases hF₁ : F₁.fix with
  | true =>
    -- afterwards nothing is left to insert, and the inserted keywords are settled
    have hU : (F₁.union F₂).fix = true := by rw [union_fix, hF₁]; rfl
    have hf : ∀ f ∈ fields, f.2.2 = false → f.1 ∈ (assignCall F₁ kw fields).kw.map (·.1) := by
      rintro ⟨name, v, d⟩ hm ⟨⟩
      obtain ⟨e', he', _⟩ := call_fix_repairs_exists F₁ kw fields hF₁ hfn hkw hfv name v hm
      exact mem_map.2 ⟨_, he', rfl⟩
    rw [call_kw_noins F₂ _ fields hf, keptKw, call_kw_fix F₁ kw fields hF₁, call_kw_fix _ kw fields hU,
      weave_eq, weave_eq, Weave.weaveG_filterMap, map_map]
    · exact congrArg (Weave.weaveG _ _ · 0) (map_congr_left hc)
    · exact fun i q hq => oldOne_inserted F₂ kw fields hfn hfv q (mem_woven hq)
  | false =>
    rw [call_kw_nofix F₁ kw fields hF₁]
    cases hF₂ : F₂.fix with
    | false =>
      rw [call_kw_nofix F₂ _ fields hF₂, call_kw_nofix _ kw fields (by rw [union_fix, hF₁, hF₂]; rfl),
        keptKw, keptKw, filterMap_filterMap]
      exact filterMap_congr_mem hc
    | true =>
      -- the second run computes its insert positions from the keyword list the first run left, from which
      -- the keywords of unchanged default-valued fields may be gone; the groups by name are the same
      have hT : grp (keptKw F₁ kw fields) fields = grp kw fields := by
        funext t
        refine congrArg (map _) (before_congr t fields [] ?_)
        rintro ⟨name, v, d⟩ hm ⟨⟩
        rw [contains_eq_mem, contains_eq_mem, decide_eq_decide]
        refine ⟨fun h => (keptKw_names_sublist F₁ kw fields).subset h, fun h => ?_⟩
        obtain ⟨p, hp, rfl⟩ := mem_map.1 h
        exact mem_map.2 ⟨_, mem_filterMap.2 ⟨p, hp, oldOne_matched (lookupF_of_mem hfn hm)⟩, rfl⟩
      rw [call_kw_keyed F₂ _ fields hF₂ ((keptKw_names_sublist F₁ kw fields).nodup hkn),
        call_kw_keyed _ kw fields (by rw [union_fix, hF₂]; simp) hkn, hT, keptKw]
      -- keyword by keyword: what the second run leaves of `p` after the first, with the group in front of it,
      -- is what one run leaves of `p` with its group
      refine congrArg (· ++ _) (flatMap_filterMap' _ _ _ kw fun p hp => ?_)
      rw [← hc p hp]
      cases h1 : oldOne F₁ fields p with
      | some q => rw [← oldOne_name h1]; rfl
      | none =>
        -- a deleted keyword is not that of a non-default field, so nothing goes in front of it
        rw [grp, before_nil fields [] fun w hw => by
          rw [oldOne_matched (lookupF_of_mem hfn hw)] at h1; cases h1]
        rfl

/-- `fix` then `update`, `update` then `fix`, and both at once give the same keyword list -/
theorem call_order_independent (kw : List (Nat × Expr)) (fields : List Field)
    (hkn : (kw.map (·.1)).Nodup) (hfn : (fields.map (·.1)).Nodup)
    (hkw : ∀ p ∈ kw, Managed p.2 ∧ WfExpr p.2) (hfv : ∀ f ∈ fields, ValOk f.2.1 ∧ WfVal f.2.1) :
    runCall (Flags.single .update) (runCall (Flags.single .fix) kw fields) fields
      = runCall ((Flags.single .fix).union (Flags.single .update)) kw fields ∧
    runCall (Flags.single .fix) (runCall (Flags.single .update) kw fields) fields
      = runCall ((Flags.single .fix).union (Flags.single .update)) kw fields := by
  refine ⟨runCall_compose _ _ kw fields hkn hfn hkw hfv, ?_⟩
  rw [runCall_compose _ _ kw fields hkn hfn hkw hfv]; rfl

/-- any two orders of any two sets of categories agree -/
theorem runCall_commute (F₁ F₂ : Flags) (kw : List (Nat × Expr)) (fields : List Field)
    (hkn : (kw.map (·.1)).Nodup) (hfn : (fields.map (·.1)).Nodup)
    (hkw : ∀ p ∈ kw, Managed p.2 ∧ WfExpr p.2) (hfv : ∀ f ∈ fields, ValOk f.2.1 ∧ WfVal f.2.1) :
    runCall F₂ (runCall F₁ kw fields) fields = runCall F₁ (runCall F₂ kw fields) fields := by
  rw [runCall_compose _ _ kw fields hkn hfn hkw hfv, runCall_compose _ _ kw fields hkn hfn hkw hfv]
  congr 1
  cases F₁; cases F₂; simp [Flags.union, Bool.or_comm]

/-! ### non-vacuity -/

section examples
open Ex

/-- `K(d=7, b=1, c=[5])` (names as numbers: a=0, b=1, c=2, d=3) -/
def kwC : List (Nat × Expr) :=
  [ (3, .leaf 3 true (.atom (.int 7))), (1, .leaf 1 true (.atom (.int 1))),
    (2, .seq false [.leaf 2 false (.atom (.int 5))]) ]
/-- the new object: `a=4` (new, no keyword yet), `b=1` (equal), `c=[5, 6]` (changed; `5` is written
    differently), `d=7` (unchanged and now the default) -/
def fieldsC : List Field :=
  [ (0, .atom (.int 4), false), (1, .atom (.int 1), false),
    (2, .list [.atom (.int 5), .atom (.int 6)], false), (3, .atom (.int 7), true) ]

example : (kwC.map (·.1)).Nodup ∧ (fieldsC.map (·.1)).Nodup := by decide
example : (∀ p ∈ kwC, Managed p.2 ∧ WfExpr p.2) ∧ (∀ f ∈ fieldsC, ValOk f.2.1 ∧ WfVal f.2.1) := by
  decide

example : runCall updateOnly (runCall fixOnly kwC fieldsC) fieldsC
      = runCall (fixOnly.union updateOnly) kwC fieldsC ∧
    runCall fixOnly (runCall updateOnly kwC fieldsC) fieldsC
      = runCall (fixOnly.union updateOnly) kwC fieldsC :=
  call_order_independent kwC fieldsC (by decide) (by decide) (by decide) (by decide)

/-- a call computed completely: `K(d=7, b=1, c=0x5, e=0)` against `a=4` (new), `b=1` (equal), `c=5` (equal,
    written differently), `d=7` (unchanged, now the default), `e=9` (changed) -/
def kwD : List (Nat × Expr) :=
  [ (3, .leaf 3 true (.atom (.int 7))), (1, .leaf 1 true (.atom (.int 1))),
    (2, .leaf 2 false (.atom (.int 5))), (4, .leaf 4 true (.atom (.int 0))) ]
def fieldsD : List Field :=
  [ (0, .atom (.int 4), false), (1, .atom (.int 1), false),
    (2, .atom (.int 5), false), (3, .atom (.int 7), true), (4, .atom (.int 9), false) ]

example : (kwD.map (·.1)).Nodup ∧ (fieldsD.map (·.1)).Nodup := by decide
example : (∀ p ∈ kwD, Managed p.2 ∧ WfExpr p.2) ∧ (∀ f ∈ fieldsD, ValOk f.2.1 ∧ WfVal f.2.1) := by
  decide

/-- only `fix`: `a=4` is inserted in front of the kept keyword `b` (index 1 of the old list, behind `d`),
    `e` is fixed; `d` and the spelling of `c` stay -/
example : runCall fixOnly kwD fieldsD =
    [ (3, .leaf 3 true (.atom (.int 7))), (0, .leaf 0 true (.atom (.int 4))),
      (1, .leaf 1 true (.atom (.int 1))), (2, .leaf 2 false (.atom (.int 5))),
      (4, .leaf 0 true (.atom (.int 9))) ] := by
  simp only [runCall, assignCall, oldKeywords, kwD, fieldsD, lookupF, assign_leaf (gv_atom _), reduceCtorEq,
    ↓reduceIte, Nat.reduceEqDiff]
  rfl
theorem kwD_update : runCall updateOnly kwD fieldsD =
    [ (1, .leaf 1 true (.atom (.int 1))), (2, .leaf 0 true (.atom (.int 5))),
      (4, .leaf 4 true (.atom (.int 0))) ] := by
  simp only [runCall, assignCall, oldKeywords, kwD, fieldsD, lookupF, assign_leaf (gv_atom _), reduceCtorEq,
    ↓reduceIte, Nat.reduceEqDiff]
  rfl
/-- only `update`: `d=7` is deleted (its field holds the unchanged default), `c` is rewritten -/
example : runCall updateOnly kwD fieldsD =
    [ (1, .leaf 1 true (.atom (.int 1))), (2, .leaf 0 true (.atom (.int 5))),
      (4, .leaf 4 true (.atom (.int 0))) ] := kwD_update
/-- `update` then `fix`: now `b` is the first keyword and `a=4` is inserted at index 0 — the same list as … -/
example : runCall fixOnly (runCall updateOnly kwD fieldsD) fieldsD =
    [ (0, .leaf 0 true (.atom (.int 4))), (1, .leaf 1 true (.atom (.int 1))),
      (2, .leaf 0 true (.atom (.int 5))), (4, .leaf 0 true (.atom (.int 9))) ] := by
  rw [kwD_update]
  simp only [runCall, assignCall, oldKeywords, fieldsD, lookupF, assign_leaf (gv_atom _), reduceCtorEq,
    ↓reduceIte, Nat.reduceEqDiff]
  rfl
/-- … both at once (`a=4` at index 1 of the old list, in front of `b`, and `d` at index 0 deleted) -/
example : runCall (fixOnly.union updateOnly) kwD fieldsD =
    [ (0, .leaf 0 true (.atom (.int 4))), (1, .leaf 1 true (.atom (.int 1))),
      (2, .leaf 0 true (.atom (.int 5))), (4, .leaf 0 true (.atom (.int 9))) ] := by
  simp only [runCall, assignCall, oldKeywords, kwD, fieldsD, lookupF, assign_leaf (gv_atom _), reduceCtorEq,
    ↓reduceIte, Nat.reduceEqDiff]
  rfl
example : runCall updateOnly (runCall fixOnly kwD fieldsD) fieldsD
    = runCall fixOnly (runCall updateOnly kwD fieldsD) fieldsD :=
  runCall_commute _ _ kwD fieldsD (by decide) (by decide) (by decide) (by decide)

end examples

end ISnap.CallAssign
