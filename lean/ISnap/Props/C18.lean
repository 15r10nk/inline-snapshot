import ISnap.Lemmas.SiteRun
import ISnap.Lemmas.TableOps
import ISnap.Props.C03
/-
  C18 — the end-of-session processing completes.

  `Leaf.cats o s` / `Site.cats o s : Option Flags` is `none` exactly where the real code would raise while it
  collects the changes of a call site at the end of the session.  Since the fix (a Min / Max / Collection value
  whose only comparison could not copy its value reports no change instead of calling
  `value_to_token(undefined)`), `none` is left only for shape mismatches between the argument and the kind of
  the value, and those are unreachable: `Leaf.cats ≠ none` is `Leaf.Ok`, the kind fits the argument
  (`cats_ne_none_iff`); every `Leaf.step` keeps `Leaf.Ok`, whatever the operation, the value and `cloneOk`
  (`ok_step`); so it holds after any run of a leaf (`finish_total_leaf`), of a site with sub-snapshots
  (`finish_total_site`) and of the table (`finish_total_table`).
-/
namespace ISnap
variable {V : Type}

/-- the kind of the value fits the argument it was created with: the states in which collecting the changes of
    a leaf site does not raise -/
def Leaf.Ok (s : Leaf V) : Prop :=
  match s.old with
  | none => True
  | some (.leaf _ _) => s.kind = .undecided ∨ s.kind = .eq ∨ s.kind = .mn ∨ s.kind = .mx
  | some (.coll _) => s.kind = .undecided ∨ s.kind = .coll
  | some (.dict _) => s.kind = .undecided

theorem cats_ne_none_iff (o : Ops V) (s : Leaf V) : s.cats o ≠ none ↔ s.Ok := by
  -- arm by arm: `cats` answers `none` exactly in its catch-all arms, where the kind does not fit the argument
  fun_cases Leaf.cats o s <;> simp [Leaf.Ok, *] <;> and_intros <;> assumption

/-- collecting raises exactly for a shape mismatch -/
theorem cats_eq_none_iff (o : Ops V) (s : Leaf V) : s.cats o = none ↔ ¬ s.Ok := by
  rw [← cats_ne_none_iff o s]; exact ⟨fun h h' => h' h, fun h => Classical.not_not.1 h⟩

theorem ok_undecided (s : Leaf V) (h : s.kind = .undecided) : s.Ok := by
  unfold Leaf.Ok
  split
  · trivial
  · exact Or.inl h
  · exact Or.inl h
  · exact h

theorem cats_total_undecided (o : Ops V) (s : Leaf V) (h : s.kind = .undecided) : s.cats o ≠ none :=
  (cats_ne_none_iff o s).2 (ok_undecided s h)

theorem step_st (o : Ops V) (f : Flags) (s : Leaf V) (op : Op) (x : V) (c : Bool) :
    (s.step o f op x c).st = s ∨
      (opFits s.old op ∧ (s.step o f op x c).st.old = s.old ∧ (s.step o f op x c).st.kind = op.kind) := by
  rcases Leaf.step_outcome o f s op x c with h | h | ⟨hfit, _, h⟩ | ⟨hfit, _, _, _, h⟩ <;> rw [h]
  · exact .inl rfl
  · exact .inl rfl
  · exact .inr ⟨hfit, rfl, rfl⟩
  · exact .inr ⟨hfit, Leaf.after_old, Leaf.after_kind⟩

/-- Every comparison — fitting or not, copyable value or not — keeps `Ok`. -/
theorem ok_step (o : Ops V) (f : Flags) (s : Leaf V) (op : Op) (x : V) (c : Bool) (hok : s.Ok) :
    (s.step o f op x c).st.Ok := by
  rcases step_st o f s op x c with h | ⟨hfit, hold, hk⟩
  · rw [h]; exact hok
  · unfold Leaf.Ok
    rw [hold, hk]
    cases hso : s.old with
    | none => trivial
    | some a =>
      rw [hso] at hfit
      cases a <;> cases op <;> first | exact hfit.elim | exact .inr (by decide)

theorem step_kind_ne_dict (o : Ops V) (f : Flags) (s : Leaf V) (op : Op) (x : V) (c : Bool)
    (h : s.kind ≠ .dict) : (s.step o f op x c).st.kind ≠ .dict := by
  rcases step_st o f s op x c with h' | ⟨_, _, hk⟩
  · rw [h']; exact h
  · rw [hk]; cases op <;> nofun

/-- arbitrary comparisons (any kind, copyable or not) -/
def Leaf.runAny (o : Ops V) (f : Flags) (s : Leaf V) : List (Op × V × Bool) → Leaf V × List Res
  | [] => (s, [])
  | (op, x, c) :: rest =>
    let r := s.step o f op x c
    let (s', rs) := Leaf.runAny o f r.st rest
    (s', r.res :: rs)

theorem ok_runAny (o : Ops V) (f : Flags) (es : List (Op × V × Bool)) (s : Leaf V) (hok : s.Ok) :
    (s.runAny o f es).1.Ok := by
  induction es generalizing s with
  | nil => exact hok
  | cons e es ih =>
    obtain ⟨op, x, c⟩ := e
    exact ih _ (ok_step o f s op x c hok)

/-- Whatever the tests did with a `snapshot(...)` call — any operations, any values, copyable or not —
    its changes can be collected at the end of the session. -/
theorem finish_total_leaf (o : Ops V) (f : Flags) (old : Option (OldArg V)) (es : List (Op × V × Bool)) :
    ((({ old := old } : Leaf V).runAny o f es).1).cats o ≠ none :=
  (cats_ne_none_iff o _).2 (ok_runAny o f es _ (ok_undecided _ rfl))

theorem ok_runOps (o : Ops V) (f : Flags) (op : Op) (xs : List V) (s : Leaf V) (hok : s.Ok) :
    (s.runOps o f op xs).1.Ok := by
  induction xs generalizing s with
  | nil => exact hok
  | cons x xs ih => exact ih _ (ok_step o f s op x true hok)

theorem cats_total_fresh (o : Ops V) (f : Flags) (old : Option (OldArg V)) (op : Op) (xs : List V) :
    ((({ old := old } : Leaf V).runOps o f op xs).1).cats o ≠ none :=
  (cats_ne_none_iff o _).2 (ok_runOps o f op xs _ (ok_undecided _ rfl))

/-- non-vacuity of the fix: `snapshot(5) <= x` with an `x` whose deep copy is not equal to it raises
    `UsageError` in the test, leaves a `MinValue` with `_new_value = undefined` — and that state now reports
    "no change" instead of raising. -/
theorem failed_clone_now_total :
    let o : Ops Int := { eqv := (· == ·), le := (· ≤ ·), same := (· == ·) }
    let r := ({ old := some (.leaf 5 true) } : Leaf Int).step o {} .le 7 false
    r.res = .usageError ∧ r.st.kind = .mn ∧ r.st.new = none ∧ r.st.cats o = some Flags.empty := by
  decide

/-- the reachable-state invariant of a site -/
structure Site.Ok (s : Site V) : Prop where
  top_ok   : s.top.kind ≠ .dict → s.top.Ok
  top_dict : s.top.kind = .dict → s.top.old = none ∨ ∃ es, s.top.old = some (.dict es)
  children : ∀ p ∈ s.children, p.2.Ok

theorem site_ok_ofOld (old : Option (OldArg V)) : (Site.ofOld old).Ok where
  top_ok := fun _ => ok_undecided _ rfl
  top_dict := fun h => by simp [Site.ofOld] at h
  children := fun p hp => by simp [Site.ofOld] at hp

theorem lookupChild_mem {eqv : V → V → Bool} {k : V} {l : List (V × Leaf V)} {c : Leaf V}
    (h : lookupChild eqv k l = some c) : ∃ p ∈ l, p.2 = c := by
  fun_induction lookupChild eqv k l with
  | case1 => cases h
  | case2 => cases h; exact ⟨_, List.mem_cons_self, rfl⟩
  | case3 _ _ _ _ ih =>
    obtain ⟨p, hp, hpc⟩ := ih h
    exact ⟨p, List.mem_cons_of_mem _ hp, hpc⟩

theorem mem_setChild {eqv : V → V → Bool} {k : V} {c : Leaf V} {l : List (V × Leaf V)} {p : V × Leaf V}
    (h : p ∈ setChild eqv k c l) : p ∈ l ∨ p.2 = c := by
  fun_induction setChild eqv k c l with
  | case1 => exact .inr (by rw [List.mem_singleton.1 h])
  | case2 =>
    rcases List.mem_cons.1 h with rfl | h
    · exact .inr rfl
    · exact .inl (List.mem_cons_of_mem _ h)
  | case3 _ _ _ _ ih =>
    rcases List.mem_cons.1 h with rfl | h
    · exact .inl List.mem_cons_self
    · exact (ih h).imp_left (List.mem_cons_of_mem _)

theorem Site.Ok.child {s : Site V} (hok : s.Ok) {eqv : V → V → Bool} {k : V} {c : Leaf V}
    (hl : lookupChild eqv k s.children = some c) : c.Ok := by
  obtain ⟨p, hp, hpc⟩ := lookupChild_mem hl
  exact hpc ▸ hok.children p hp

theorem getItem_ok (o : Ops V) (s : Site V) (k : V) (hok : s.Ok) (r : Site V × Leaf V × Nat)
    (h : s.getItem o k = .ok r) : r.1.Ok ∧ r.2.1.Ok := by
  -- the child is one that is there already, or a fresh, undecided one appended to the others
  have fresh : ∀ c : Leaf V, c.kind = .undecided → ∀ p ∈ s.children ++ [(k, c)], p.2.Ok :=
    fun c h0 p hp => by
      rcases List.mem_append.1 hp with hp | hp
      · exact hok.children p hp
      · rw [List.mem_singleton.1 hp]; exact ok_undecided _ h0
  have top' : ∀ ch, (s.top.old = none ∨ ∃ es, s.top.old = some (.dict es)) → (∀ p ∈ ch, p.2.Ok) →
      Site.Ok { top := { s.top with kind := .dict }, children := ch } :=
    fun _ hold hch => ⟨fun hk => absurd rfl hk, fun _ => hold, hch⟩
  revert h
  -- the three errors; then argument missing (4, 5) or a dict display (6, 7), with the child found or fresh
  fun_cases Site.getItem o s k with
  | case1 | case2 | case3 => nofun
  | case4 _ hold _ c hl => rintro ⟨⟩; exact ⟨top' _ (.inl hold) hok.children, hok.child hl⟩
  | case5 _ hold => rintro ⟨⟩; exact ⟨top' _ (.inl hold) (fresh _ rfl), ok_undecided _ rfl⟩
  | case6 _ es hold _ c hl => rintro ⟨⟩; exact ⟨top' _ (.inr ⟨es, hold⟩) hok.children, hok.child hl⟩
  | case7 _ es hold => rintro ⟨⟩; exact ⟨top' _ (.inr ⟨es, hold⟩) (fresh _ rfl), ok_undecided _ rfl⟩

theorem site_ok_step (o : Ops V) (f : Flags) (s : Site V) (key : Option V) (op : Op) (x : V) (c : Bool)
    (hok : s.Ok) : (s.step o f key op x c).st.Ok := by
  -- on the site itself: a dict site (TypeError) or not; on `s[k]`: `getItem` raised or returned the child
  fun_cases Site.step o f s key op x c with
  | case1 | case3 => exact hok
  | case2 hk =>
    exact ⟨fun _ => ok_step o f _ op x c (hok.top_ok hk),
      fun h => absurd h (step_kind_ne_dict o f _ op x c hk), hok.children⟩
  | case4 k s' ch dm hg =>
    obtain ⟨hs', hch⟩ := getItem_ok o s k hok _ hg
    refine ⟨hs'.top_ok, hs'.top_dict, fun p hp => ?_⟩
    rcases mem_setChild hp with hp | hp
    · exact hs'.children p hp
    · rw [hp]; exact ok_step o f ch op x c hch

theorem site_ok_touch (o : Ops V) (s : Site V) (k : V) (hok : s.Ok) : (s.touch o k).st.Ok := by
  fun_cases Site.touch o s k with
  | case1 => exact hok
  | case2 s' ch dm hg => exact (getItem_ok o s k hok _ hg).1

theorem unionOpt_ne_none {a b : Option Flags} (ha : a ≠ none) (hb : b ≠ none) : unionOpt a b ≠ none := by
  cases a with
  | none => exact absurd rfl ha
  | some x => cases b with
    | none => exact absurd rfl hb
    | some y => nofun

theorem site_cats_ne_none (o : Ops V) (s : Site V) (hok : s.Ok) : s.cats o ≠ none := by
  fun_cases Site.cats o s with
  | case1 hk => exact (cats_ne_none_iff o _).2 (hok.top_ok hk)
  | case2 => nofun
  | case3 _ es =>
    -- every old entry contributes the categories of its child, which is `Ok`, or a trim
    refine unionOpt_ne_none
      (List.foldlRecOn (motive := (· ≠ none)) es _ (by nofun) fun acc hacc e _ => ?_) (by nofun)
    split
    · rename_i c hl
      exact unionOpt_ne_none hacc ((cats_ne_none_iff o c).2 (hok.child hl))
    · exact unionOpt_ne_none hacc (by nofun)
  | case4 hk h1 h2 =>
    -- a dict site whose argument is neither missing nor a dict display: excluded by `top_dict`
    rcases hok.top_dict (Classical.not_not.1 hk) with ho | ⟨es, ho⟩
    · exact (h1 ho).elim
    · exact (h2 es ho).elim

/-- what a test can do with one `snapshot(...)` call site -/
inductive SiteAct (V : Type) where
  | op (key : Option V) (op : Op) (x : V) (cloneOk : Bool)
  | touch (key : V)

def Site.act (o : Ops V) (f : Flags) (s : Site V) : SiteAct V → Site V
  | .op key op x c => (s.step o f key op x c).st
  | .touch k => (s.touch o k).st

def Site.runActs (o : Ops V) (f : Flags) (s : Site V) (as : List (SiteAct V)) : Site V :=
  as.foldl (Site.act o f) s

theorem site_ok_runActs (o : Ops V) (f : Flags) (as : List (SiteAct V)) (s : Site V) (hok : s.Ok) :
    (s.runActs o f as).Ok :=
  List.foldlRecOn as (Site.act o f) hok fun s hs a _ => by
    cases a with
    | op key op x c => exact site_ok_step o f s key op x c hs
    | touch k => exact site_ok_touch o s k hs

/-- The same for a site with sub-snapshots: after any sequence of operations on the site or on `s[key]`
    and of bare `s[key]` accesses, the changes of the site can be collected. -/
theorem finish_total_site (o : Ops V) (f : Flags) (old : Option (OldArg V)) (as : List (SiteAct V)) :
    ((Site.ofOld old).runActs o f as).cats o ≠ none :=
  site_cats_ne_none o _ (site_ok_runActs o f as _ (site_ok_ofOld old))

def Table.Ok (t : Table V) : Prop := ∀ p ∈ t.sites, p.2.Ok

theorem table_ok_set {t : Table V} (ht : t.Ok) (k : Nat) {s : Site V} (hs : s.Ok) (m i : Nat) :
    Table.Ok { (t.set k s) with missing := m, incorrect := i } := by
  intro p hp
  rcases mem_setSite (show p ∈ setSite k s t.sites from hp) with h | h
  · exact ht p h
  · rw [h]; exact hs

theorem table_lookup_ok {t : Table V} (ht : t.Ok) {k : Nat} {s : Site V} (h : t.lookup k = some s) :
    s.Ok := by
  unfold Table.lookup at h
  simp only [Option.map_eq_some_iff] at h
  obtain ⟨p, hp, rfl⟩ := h
  exact ht p (List.mem_of_find?_eq_some hp)

theorem table_ok_snap {o : Ops V} {t t1 : Table V} {k : Nat} {old : Option (OldArg V)} {r : Option Res}
    (h : t.snap o k old = (t1, r)) (ht : t.Ok) : t1.Ok := by
  rw [show t1 = (t.snap o k old).1 by rw [h], Table.snap_fst]
  split
  · exact table_ok_set ht k (site_ok_ofOld old) _ _
  · exact ht

theorem table_ok_snaps {o : Ops V} {pre : List (Nat × Option (OldArg V))} {t t1 : Table V} {r : Option Res}
    (h : t.snaps o pre = (t1, r)) (ht : t.Ok) : t1.Ok := by
  fun_induction Table.snaps o t pre with
  | case1 => cases h; exact ht
  | case2 t k old _ t2 heq ih => exact ih h (table_ok_snap heq ht)
  | case3 t k old _ t2 e heq => cases h; exact table_ok_snap heq ht

theorem table_ok_step (o : Ops V) (f : Flags) (e : Event V) (t : Table V) (ht : t.Ok) :
    (t.step o f e).1.Ok := by
  -- the cases of `Table.step`: begin, snap, stmt (a `snapshot(...)` call raised / none did), op and touch
  -- (each with the site unknown / known)
  fun_induction Table.step o f t e with
  | case1 | case5 | case7 => exact ht
  | case2 t k old => exact table_ok_snap rfl ht
  | case3 t pre _ t1 e heq => exact table_ok_snaps heq ht
  | case4 t pre _ t1 heq ih => exact ih (table_ok_snaps heq ht)
  | case6 t k key op x c s hl =>
    exact table_ok_set ht k (site_ok_step o f s key op x c (table_lookup_ok ht hl)) _ _
  | case8 t k key s hl => exact table_ok_set ht k (site_ok_touch o s key (table_lookup_ok ht hl)) _ _

theorem table_ok_run (o : Ops V) (f : Flags) (evs : List (Event V)) (t : Table V) (ht : t.Ok) :
    (t.run o f evs).1.Ok := by
  induction evs generalizing t with
  | nil => exact ht
  | cons e es ih => exact ih _ (table_ok_step o f e t ht)

/-- After ANY session (any list of events: fixture resets, `snapshot(...)` evaluations, operations,
    statements), the changes of every call site in the table can be collected. -/
theorem finish_total_table (o : Ops V) (f : Flags) (evs : List (Event V)) :
    ∀ p ∈ (Table.run o f ({} : Table V) evs).1.sites, p.2.cats o ≠ none := by
  intro p hp
  exact site_cats_ne_none o p.2 (table_ok_run o f evs _ (fun q hq => by cases hq) p hp)

open Rewrite in
/-- Writing the new source text: `SourceFile.new_code` raises (`none`) exactly when `_check` finds an unordered
    or overlapping pair among the sorted replacements; otherwise it produces a text. -/
theorem replacements_disjoint_means_total (fmt : Rewrite.Str → Rewrite.Str) (enforce : Bool) (t : Rewrite.Str)
    (rs : List Rewrite.Repl) :
    newCode fmt enforce t rs ≠ none ↔ checkSorted (sortRepls rs) = true := by
  rw [Ne, newcode_none_iff]; cases checkSorted (sortRepls rs) <;> simp

end ISnap
