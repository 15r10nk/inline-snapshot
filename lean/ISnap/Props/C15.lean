import ISnap.Lemmas.FinishLemmas
import ISnap.Lemmas.ExternalLemmas
/-
  C15 — faults while writing (`pytest_sessionfinish`, from "used_changes computed" to "files written").

  The write phase is the step list `plan jobs = computePhase jobs ++ writePhase jobs`; a fault (an exception in a
  step, or the process being killed) after `k` steps leaves the disk `crashAt d (plan jobs) k`.

  1. every `persist r` of a file precedes every write to that file                          (`persist_before_write`)
  2. a file is `old`, `new`, or — only directly after its `truncate` — `empty`              (`crash_content`,
     `crash_safe_partial`, `crash_unsafe_between_truncate_put`)
  3. a file with new content never refers to an external that was not persisted             (`crash_no_dangling`,
     `crash_no_dangling_store`)
  4. a fault while computing / parsing / persisting leaves every test file untouched        (`compute_phase_writes_nothing`)
  5. a failing formatter degrades to the unformatted text plus a reported problem           (`formatter_failure_degrades`)
-/
namespace ISnap.Finish
open ISnap.External List

def computePhase (jobs : List Job) : List Step :=
  jobs.flatMap (fun j => Step.compute j.1 :: j.2.map Step.persist)

def writePhase (jobs : List Job) : List Step :=
  jobs.flatMap (fun j => [Step.truncate j.1, Step.put j.1])

theorem plan_eq (jobs : List Job) : plan jobs = computePhase jobs ++ writePhase jobs := rfl

def Step.isWrite : Step → Bool
  | .truncate _ => true
  | .put _ => true
  | _ => false

/-- all files start with their old content, one entry per job, no file twice -/
def Fresh (d : Disk) (jobs : List Job) : Prop :=
  d.files = jobs.map (fun j => (j.1, Content.old)) ∧ (jobs.map (·.1)).Nodup

theorem computePhase_no_write {jobs : List Job} {s : Step} (hs : s ∈ computePhase jobs) :
    s.isWrite = false := by
  simp only [computePhase, mem_flatMap, mem_cons, mem_map] at hs
  obtain ⟨j, _, h⟩ := hs
  rcases h with rfl | ⟨r, _, rfl⟩ <;> rfl

theorem writePhase_all_write {jobs : List Job} {s : Step} (hs : s ∈ writePhase jobs) :
    s.isWrite = true := by
  simp only [writePhase, mem_flatMap, mem_cons, not_mem_nil, or_false] at hs
  obtain ⟨j, _, h⟩ := hs
  rcases h with rfl | rfl <;> rfl

theorem persist_mem_computePhase {jobs : List Job} {j : Job} (hj : j ∈ jobs) {r : Ref} (hr : r ∈ j.2) :
    Step.persist r ∈ computePhase jobs := by
  simp only [computePhase, mem_flatMap, mem_cons, mem_map]
  exact ⟨j, hj, Or.inr ⟨r, hr, rfl⟩⟩

theorem write_mem_writePhase {jobs : List Job} {j : Job} (hj : j ∈ jobs) :
    Step.truncate j.1 ∈ writePhase jobs ∧ Step.put j.1 ∈ writePhase jobs := by
  simp only [writePhase, mem_flatMap, mem_cons, not_mem_nil, or_false]
  exact ⟨⟨j, hj, Or.inl rfl⟩, ⟨j, hj, Or.inr rfl⟩⟩

theorem not_mem_computePhase {jobs : List Job} {s : Step} (h : s.isWrite = true) : s ∉ computePhase jobs :=
  fun hs => by rw [computePhase_no_write hs] at h; cases h

/-- In the plan, `persist r` for an external `r` of file `j.1` stands before every write step (of any file),
    and both write steps of `j.1` come after it. -/
theorem persist_before_write (jobs : List Job) (j : Job) (hj : j ∈ jobs) (r : Ref) (hr : r ∈ j.2) :
    ∃ a b, plan jobs = a ++ [Step.persist r] ++ b ∧
      (∀ f, Step.truncate f ∉ a ∧ Step.put f ∉ a) ∧
      Step.truncate j.1 ∈ b ∧ Step.put j.1 ∈ b := by
  obtain ⟨a, c, hac⟩ := append_of_mem (persist_mem_computePhase hj hr)
  refine ⟨a, c ++ writePhase jobs, ?_, ?_, ?_, ?_⟩
  · rw [plan_eq, hac]; simp
  · intro f
    have hsub : ∀ s, s ∈ a → s ∈ computePhase jobs := fun s hs => by rw [hac]; simp [hs]
    exact ⟨fun h => not_mem_computePhase rfl (hsub _ h), fun h => not_mem_computePhase rfl (hsub _ h)⟩
  · exact mem_append_right _ (write_mem_writePhase hj).1
  · exact mem_append_right _ (write_mem_writePhase hj).2

/-- the same with indices: the first `persist r` is earlier than the first `truncate j.1` and `put j.1` -/
theorem persist_index_lt_write (jobs : List Job) (j : Job) (hj : j ∈ jobs) (r : Ref) (hr : r ∈ j.2) :
    (plan jobs).idxOf (Step.persist r) < (plan jobs).idxOf (Step.truncate j.1) ∧
    (plan jobs).idxOf (Step.persist r) < (plan jobs).idxOf (Step.put j.1) := by
  have hp := persist_mem_computePhase hj hr
  have hlt := idxOf_lt_length_of_mem hp
  rw [plan_eq, idxOf_append, idxOf_append, idxOf_append, if_pos hp,
    if_neg (not_mem_computePhase rfl), if_neg (not_mem_computePhase rfl)]
  exact ⟨Nat.lt_add_left _ hlt, Nat.lt_add_left _ hlt⟩

theorem Fresh.contentOf {d : Disk} {jobs : List Job} (h : Fresh d jobs) {f : Nat} {c : Content}
    (hc : contentOf d f = some c) : c = .old := by
  unfold Finish.contentOf at hc
  rw [h.1] at hc
  simp only [Option.map_eq_some_iff] at hc
  obtain ⟨p, hp, rfl⟩ := hc
  have := mem_of_find?_eq_some hp
  simp only [mem_map] at this
  obtain ⟨j, _, rfl⟩ := this
  rfl

theorem writePhase_truncate_next (jobs : List Job) (i f : Nat)
    (h : (writePhase jobs)[i]? = some (Step.truncate f)) : (writePhase jobs)[i + 1]? = some (Step.put f) := by
  induction jobs generalizing i with
  | nil => cases h
  | cons j js ih =>
    have hw : writePhase (j :: js) = Step.truncate j.1 :: Step.put j.1 :: writePhase js := rfl
    rw [hw] at h ⊢
    match i, h with
    | 0, h => cases h; rfl
    | 1, h => cases h
    | i + 2, h => exact ih i h

theorem plan_truncate_next (jobs : List Job) (i f : Nat)
    (h : (plan jobs)[i]? = some (Step.truncate f)) : (plan jobs)[i + 1]? = some (Step.put f) :=
  next_append (not_mem_computePhase rfl) (writePhase_truncate_next jobs · f) i h

/-- The content `c` of file `f` after a fault at step `k`:
    `empty` only if the last executed step was `truncate f`; `new` only if `put f` was executed;
    `old` only if neither `truncate f` nor `put f` was executed. -/
theorem crash_content (d : Disk) (jobs : List Job) (k f : Nat) (c : Content) (hfresh : Fresh d jobs)
    (hc : contentOf (crashAt d (plan jobs) k) f = some c) :
    (c = .empty → 1 ≤ k ∧ (plan jobs)[k - 1]? = some (Step.truncate f)) ∧
    (c = .new → Step.put f ∈ (plan jobs).take k) ∧
    (c = .old → Step.truncate f ∉ (plan jobs).take k ∧ Step.put f ∉ (plan jobs).take k) := by
  rw [contentOf_crashAt] at hc
  simp only [Option.map_eq_some_iff] at hc
  obtain ⟨c0, hc0, hfold⟩ := hc
  have := hfresh.contentOf hc0
  subst this
  refine ⟨fun he => ?_, ?_⟩
  · obtain ⟨i, rfl, hi⟩ := take_stepC_empty (plan_truncate_next jobs · f) k (he ▸ hfold)
    exact ⟨Nat.le_add_left 1 i, hi⟩
  rcases foldl_stepC_cases f ((plan jobs).take k) .old with ⟨h, hm⟩ | ⟨h, _⟩ | ⟨h, hm⟩ <;>
    rw [hfold] at h <;> subst h
  · exact ⟨fun _ => hm, nofun⟩
  · exact ⟨nofun, nofun⟩
  · exact ⟨nofun, fun _ => hm⟩

/-- If the fault does not fall between a `truncate` and its `put`, every file has its old or its new content. -/
theorem crash_safe_partial (d : Disk) (jobs : List Job) (k : Nat) (hfresh : Fresh d jobs)
    (hk : ∀ f, (plan jobs)[k - 1]? ≠ some (Step.truncate f)) (f : Nat) (c : Content)
    (hc : contentOf (crashAt d (plan jobs) k) f = some c) : c = .old ∨ c = .new := by
  cases c with
  | old => exact Or.inl rfl
  | new => exact Or.inr rfl
  | empty => exact absurd ((crash_content d jobs k f .empty hfresh hc).1 rfl).2 (hk f)

/-- The window exists: `open(f, "bw")` has truncated the file, the process dies before `write`: the test file
    is empty (neither its old nor its new content). -/
theorem crash_unsafe_between_truncate_put :
    let jobs : List Job := [(0, [])]
    let d : Disk := { files := [(0, .old)], store := [] }
    Fresh d jobs ∧ plan jobs = [Step.compute 0, Step.truncate 0, Step.put 0] ∧
      contentOf (crashAt d (plan jobs) 2) 0 = some .empty := by
  refine ⟨⟨rfl, by decide⟩, by decide, by decide⟩

theorem exec_files_of_not_write (d : Disk) (s : Step) (h : s.isWrite = false) : (exec d s).files = d.files := by
  cases s <;> first | rfl | cases h

/-- A fault in any of the compute / parse / persist steps (`k ≤` their number) leaves every test file as it was. -/
theorem compute_phase_writes_nothing (d : Disk) (jobs : List Job) (k : Nat)
    (hk : k ≤ (computePhase jobs).length) : (crashAt d (plan jobs) k).files = d.files := by
  unfold crashAt
  rw [plan_eq, take_append_of_le_length hk]
  exact foldlRecOn (motive := (·.files = d.files)) _ exec rfl fun d' hd s hs =>
    (exec_files_of_not_write d' s (computePhase_no_write (mem_of_mem_take hs))).trans hd

theorem computePhase_length (jobs : List Job) :
    (computePhase jobs).length = (jobs.map (fun j => 1 + j.2.length)).sum := by
  rw [computePhase, length_flatMap]
  exact congrArg sum (map_congr_left fun j _ => by rw [length_cons, length_map, Nat.add_comm])

theorem compute_phase_all_old (d : Disk) (jobs : List Job) (k : Nat) (hfresh : Fresh d jobs)
    (hk : k ≤ (computePhase jobs).length) (f : Nat) (c : Content)
    (hc : contentOf (crashAt d (plan jobs) k) f = some c) : c = .old := by
  unfold contentOf at hc
  rw [compute_phase_writes_nothing d jobs k hk] at hc
  exact hfresh.contentOf hc

/-- If a file has its new content at the crash point, then the whole compute phase ran, in particular every
    `persist r` of its externals (indeed of the externals of all files). -/
theorem crash_new_after_computePhase (d : Disk) (jobs : List Job) (k f : Nat) (hfresh : Fresh d jobs)
    (hc : contentOf (crashAt d (plan jobs) k) f = some .new) :
    (computePhase jobs).length < k ∧ ∀ s ∈ computePhase jobs, s ∈ (plan jobs).take k := by
  have hput := (crash_content d jobs k f .new hfresh hc).2.1 rfl
  have hlt : (computePhase jobs).length < k := by
    apply Nat.lt_of_not_le
    intro hle
    rw [plan_eq, take_append_of_le_length hle] at hput
    exact not_mem_computePhase rfl (mem_of_mem_take hput)
  refine ⟨hlt, fun s hs => ?_⟩
  rw [plan_eq, take_append]
  rw [take_of_length_le (Nat.le_of_lt hlt)]
  exact mem_append_left _ hs

theorem crash_no_dangling (d : Disk) (jobs : List Job) (k : Nat) (j : Job) (hfresh : Fresh d jobs)
    (hj : j ∈ jobs) (hc : contentOf (crashAt d (plan jobs) k) j.1 = some .new) :
    ∀ r ∈ j.2, Step.persist r ∈ (plan jobs).take k ∧
      ∃ i, i < k ∧ (plan jobs)[i]? = some (Step.persist r) := by
  intro r hr
  have hmem := (crash_new_after_computePhase d jobs k j.1 hfresh hc).2 _ (persist_mem_computePhase hj hr)
  refine ⟨hmem, ?_⟩
  obtain ⟨i, hi⟩ := mem_iff_getElem?.1 hmem
  rw [getElem?_take] at hi
  split at hi
  · exact ⟨i, ‹i < k›, hi⟩
  · cases hi

/-- Combined: if file `j.1` has its new content at the crash point, then every external `r` it refers to — provided
    `r` has exactly one match in the initial store (forced: `referenced_not_persisted_on_collision`) and the store has
    no two files of one name — has exactly one match in the store at the crash point, and it is a persisted file
    (it survives the `prune_new_files` of the next session). -/
theorem crash_no_dangling_store (d : Disk) (jobs : List Job) (k : Nat) (j : Job) (hfresh : Fresh d jobs)
    (hj : j ∈ jobs) (hc : contentOf (crashAt d (plan jobs) k) j.1 = some .new)
    (hu : Uniq d.store) (r : Ref) (hr : r ∈ j.2) (hm : ∃ e, PrefixUnique d.store r e) :
    ∃ e, PrefixUnique (crashAt d (plan jobs) k).store r e ∧ e.isNew = false ∧
      e ∈ step (crashAt d (plan jobs) k).store .start := by
  have hmem := (crash_no_dangling d jobs k j hfresh hj hc r hr).1
  obtain ⟨e, he⟩ := hm
  have he' : PrefixUnique (crashAt d (plan jobs) k).store r { e with isNew := false } := by
    unfold crashAt
    rw [foldl_store]
    exact persistAll_persists hu he (mem_filterMap.2 ⟨_, hmem, rfl⟩)
  exact ⟨_, he', rfl, mem_prune.2 ⟨he'.1, rfl⟩⟩

theorem formatter_failure_degrades (u : List Nat) :
    fmtDegrades none u = (u, true) ∧ ∀ t, fmtDegrades (some t) u = (t, false) :=
  ⟨rfl, fun _ => rfl⟩

end ISnap.Finish
