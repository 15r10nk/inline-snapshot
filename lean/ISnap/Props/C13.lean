import ISnap.Lemmas.ExternalLemmas
/-
  C13 — the external storage directory.  Invariants of `ISnap.Model.External` over arbitrary histories of
  `start` / `outsource` / `finish` events, each in inductive form (`Inv s → Inv (step s ev)`) and for
  `run [] evs`.  `Hashed`, `WellHashed`, `Uniq`, `NoShadow`, `PrefixUnique` are defined in
  `ISnap/Lemmas/ExternalLemmas.lean`.
-/
namespace ISnap.External

/-! ## the file name is the hash of the content -/

theorem I1_step (H : Nat → Hash) (s : Store) (ev : Ev) (hev : WellHashedEv H ev) (h : Hashed H s) :
    Hashed H (step s ev) := step_inv Hashed.filter Hashed.persist Hashed.outsource s ev hev h

theorem I1_name_is_hash (H : Nat → Hash) (evs : List Ev) (hw : WellHashed H evs) :
    ∀ e ∈ run [] evs, e.hash = H e.data :=
  run_inv (I1_step H) evs [] hw (fun _ h => nomatch h)

/-- stronger, and without any hypothesis on the hash function: every file of the directory carries exactly
    the hash, suffix and data of some `outsource` event of the history -/
theorem every_entry_was_outsourced (evs : List Ev) :
    ∀ e ∈ run [] evs, Ev.outsource e.hash e.suffix e.data ∈ evs := by
  intro e he
  -- a persisted file was a `-new` file before some `finish`, and that one was outsourced
  rcases mem_run he with h | ⟨_, h⟩ | ⟨_, pre, w, a, t, post, rfl, h, _⟩
  · cases h
  · exact h
  · rcases mem_run h with h | ⟨_, h⟩ | ⟨h, _⟩
    · cases h
    · exact List.mem_append_left _ h
    · cases h

theorem read_returns_outsourced (s : Store) (r : Ref) (d : Nat) (h : read s r = some d) :
    ∃ e ∈ s, e.data = d ∧ r.pre.isPrefixOf e.hash = true ∧ e.suffix = r.suffix := by
  obtain ⟨e, he, hd⟩ := Option.map_eq_some_iff.1 h
  have hm : e ∈ lookupAll s { r with star := true } := by
    rw [lookup_eq_some_iff.1 he]; exact List.mem_singleton_self e
  obtain ⟨hs, hg⟩ := List.mem_filter.1 hm
  simp only [globMatch, if_true, Bool.and_eq_true, beq_iff_eq] at hg
  exact ⟨e, hs, hd, hg.2, hg.1⟩

/-- what is read has a hash with the requested prefix, over any well-hashed history -/
theorem read_hash_has_prefix (H : Nat → Hash) (evs : List Ev) (hw : WellHashed H evs) (r : Ref) (d : Nat)
    (h : read (run [] evs) r = some d) :
    r.pre.isPrefixOf (H d) = true ∧ Ev.outsource (H d) r.suffix d ∈ evs := by
  obtain ⟨e, he, rfl, hp, hs⟩ := read_returns_outsourced _ r _ h
  rw [← hs, ← I1_name_is_hash H evs hw e he]
  exact ⟨hp, every_entry_was_outsourced evs e he⟩

/-! ## never two files with the same name -/

theorem unique_names_step (s : Store) (ev : Ev) (h : Uniq s) : Uniq (step s ev) :=
  step_inv (P := fun _ => True) Uniq.filter Uniq.persist (fun h hh sfx d _ => h.outsource hh sfx d) s ev trivial h

theorem unique_names (evs : List Ev) : (run [] evs).Pairwise (fun a b => sameName a b = false) :=
  run_inv (P := fun _ => True) (fun s ev _ => unique_names_step s ev) evs [] (fun _ _ => trivial) List.Pairwise.nil

/-! ## `-new` files die at session start -/

theorem I3_new_files_die_at_start (s : Store) : ∀ e ∈ step s .start, e.isNew = false :=
  fun _ he => (mem_prune.1 he).2

theorem I3_history (s : Store) (evs : List Ev) : ∀ e ∈ run s (evs ++ [.start]), e.isNew = false := by
  rw [run_snoc]; exact I3_new_files_die_at_start _

/-- a `-new` file present after a history was outsourced since the last `start` -/
theorem new_since_last_start (s : Store) (pre post : List Ev) (e : Entry)
    (he : e ∈ run s (pre ++ [.start] ++ post)) (hn : e.isNew = true) (hns : Ev.start ∉ post) :
    Ev.outsource e.hash e.suffix e.data ∈ post := by
  rw [run_append] at he
  -- `hns` is not needed: `mem_run` finds the `outsource` in `post` whatever else `post` holds
  rcases mem_run he with h | ⟨_, h⟩ | ⟨h, _⟩
  · rw [I3_history s pre e h] at hn; cases hn
  · exact h
  · rw [hn] at h; cases h

/-! ## a file is persisted only if a rewritten test file refers to it -/

/-- step form: a persisted file after a step was persisted before the step, or the step is a `finish`,
    the same file with the `-new` infix was there before, and a written reference matches it -/
theorem persisted_step (s : Store) (ev : Ev) (e : Entry) (he : e ∈ step s ev) (hn : e.isNew = false) :
    e ∈ s ∨ ∃ w a t, ev = .finish w a t ∧ { e with isNew := true } ∈ s ∧
      ∃ r ∈ w, persistMatch r e = true := by
  rcases mem_step he with h | ⟨h, _⟩ | ⟨_, h2, w, a, t, h3, h4⟩
  · exact Or.inl h
  · rw [hn] at h; cases h
  · exact Or.inr ⟨w, a, t, h3, h2, h4⟩

/-- history form: the history splits at a `finish` event with a written reference matching the file, and
    right before that `finish` the file was there as a `-new` file (same hash, suffix, data) -/
theorem I2_persisted_only_if_referenced (evs : List Ev) (e : Entry) (he : e ∈ run [] evs)
    (hn : e.isNew = false) :
    ∃ pre w a t post, evs = pre ++ .finish w a t :: post ∧
      { e with isNew := true } ∈ run [] pre ∧ ∃ r ∈ w, persistMatch r e = true := by
  rcases mem_run he with h | ⟨h, _⟩ | ⟨_, h⟩
  · cases h
  · rw [hn] at h; cases h
  · exact h

theorem I2_finish_event (evs : List Ev) (e : Entry) (he : e ∈ run [] evs) (hn : e.isNew = false) :
    ∃ w a t, Ev.finish w a t ∈ evs ∧ ∃ r ∈ w, persistMatch r e = true := by
  obtain ⟨pre, w, a, t, post, h, _, hr⟩ := I2_persisted_only_if_referenced evs e he hn
  exact ⟨w, a, t, by rw [h]; simp, hr⟩

/-! ## a persisted file is removed only by an approved trim that found no reference to it -/

/-- holds for every store: the rename-onto-an-existing-file case of `persist` is unreachable, because the
    existing `<h>.<sfx>` matches the pattern `<prefix>*<sfx>` too and the match is then not unique -/
theorem I4_removed_only_by_trim (s : Store) (ev : Ev) (e : Entry) (he : e ∈ s) (hn : e.isNew = false)
    (hgone : e ∉ step s ev) :
    ∃ w a, ev = .finish w a true ∧ ∀ r ∈ a, globMatch r e = false :=
  (persisted_mem_step he hn ev).resolve_left hgone

/-- the other direction: after an approved trim only referenced files are left -/
theorem trim_keeps_only_referenced (s : Store) (w a : List Ref) (e : Entry)
    (he : e ∈ step s (.finish w a true)) : ∃ r ∈ a, globMatch r e = true :=
  List.any_eq_true.1 ((mem_finish_iff.1 he).2 rfl)

/-- history form: a persisted file stays as long as every approved trim sees a reference to it -/
theorem persisted_survives (s : Store) (evs : List Ev) (e : Entry) (he : e ∈ s) (hn : e.isNew = false)
    (href : ∀ w a, Ev.finish w a true ∈ evs → ∃ r ∈ a, globMatch r e = true) : e ∈ run s evs := by
  refine run_inv (Inv := (e ∈ ·)) (P := (· ∈ evs)) (fun s ev hev hs => ?_) evs s (fun _ h => h) he
  rcases persisted_mem_step hs hn ev with h | ⟨w, a, rfl, hno⟩
  · exact h
  · obtain ⟨r, hr, hg⟩ := href w a hev
    rw [hno r hr] at hg; cases hg

/-- the invariant behind it: `<h>-new.<sfx>` and `<h>.<sfx>` never coexist -/
theorem no_shadow_step (s : Store) (ev : Ev) (h : NoShadow s) : NoShadow (step s ev) :=
  step_inv (P := fun _ => True) NoShadow.filter NoShadow.persist (fun h hh sfx d _ => h.outsource hh sfx d) s ev
    trivial h

theorem no_shadow (evs : List Ev) : NoShadow (run [] evs) :=
  run_inv (P := fun _ => True) (fun s ev _ => no_shadow_step s ev) evs [] (fun _ _ => trivial)
    (fun _ h => nomatch h)

/-! ## an ambiguous or missing name raises -/

theorem lookup_ambiguous_or_missing_raises (s : Store) (r : Ref) (e : Entry) (h : lookup s r = some e) :
    lookupAll s r = [e] := lookup_eq_some_iff.1 h

theorem read_unique (s : Store) (r : Ref) (d : Nat) (h : read s r = some d) :
    (s.filter (globMatch { r with star := true })).length = 1 := by
  obtain ⟨e, he, _⟩ := Option.map_eq_some_iff.1 h
  exact congrArg List.length (lookup_eq_some_iff.1 he)

theorem lookup_none_of_not_unique (s : Store) (r : Ref) (h : (lookupAll s r).length ≠ 1) :
    lookup s r = none :=
  Option.eq_none_iff_forall_ne_some.2 fun _ he => h (congrArg List.length (lookup_eq_some_iff.1 he))

theorem read_none_of_not_unique (s : Store) (r : Ref)
    (h : (s.filter (globMatch { r with star := true })).length ≠ 1) : read s r = none := by
  unfold read
  rw [lookup_none_of_not_unique _ _ h]; rfl

theorem lookup_isSome_iff (s : Store) (r : Ref) : (lookup s r).isSome = true ↔ (lookupAll s r).length = 1 := by
  rw [Option.isSome_iff_exists, List.length_eq_one_iff]
  exact exists_congr fun _ => lookup_eq_some_iff

/-! ## a uniquely referenced file is persisted; a colliding prefix persists nothing -/

/-- forced hypothesis `PrefixUnique`: exactly one entry `e` of `s` matches `<r.pre>*<r.suffix>` -/
theorem referenced_is_persisted (s : Store) (r : Ref) (e : Entry) (hu : Uniq s) (hp : PrefixUnique s r e) :
    { e with isNew := false } ∈ persist s r ∧ ∀ x ∈ persist s r, persistMatch r x = true → x.isNew = false := by
  have h := hp.persist_self hu
  exact ⟨h.1, fun x hx hm => by rw [h.2.2 x hx hm]⟩

/-- without the hypothesis the clause is false: two `-new` files share the referenced prefix, `persist`
    changes nothing and the referenced file stays a `-new` file (which the next `start` deletes) -/
theorem referenced_not_persisted_on_collision :
    let s : Store := [⟨[1, 2, 3], true, 0, 10⟩, ⟨[1, 2, 4], true, 0, 20⟩]
    let r : Ref := ⟨[1, 2], true, 0⟩
    Uniq s ∧ persist s r = s ∧ (∀ e ∈ persist s r, e.isNew = true) ∧
      step (finish s [r] [r] false) .start = [] := by
  refine ⟨?_, rfl, by decide, rfl⟩
  unfold Uniq; decide

/-! ## idempotence -/

theorem outsource_idempotent (s : Store) (h : Hash) (sfx d : Nat) :
    outsource (outsource s h sfx d) h sfx d = outsource s h sfx d := by
  rcases outsource_cases s h sfx d with h1 | ⟨_, h1⟩
  · rw [h1]; exact h1
  · rw [h1]
    rcases outsource_cases (save s ⟨h, true, sfx, d⟩) h sfx d with h2 | ⟨_, h2⟩
    · exact h2
    · rw [h2, save_idempotent]

theorem prune_idempotent (s : Store) : prune (prune s) = prune s := by
  simp [prune, List.filter_filter]

theorem start_idempotent (s : Store) : step (step s .start) .start = step s .start := prune_idempotent s

/-! ## non-vacuity -/

/-- start, two outsources, finish with one written reference, start again: the referenced file is persisted
    and survives, the other `-new` file dies at the second start -/
example :
    run [] [.start, .outsource [1, 2, 3] 0 10, .outsource [4, 5, 6] 0 20,
            .finish [⟨[1, 2], true, 0⟩] [⟨[1, 2], true, 0⟩] false, .start]
      = [⟨[1, 2, 3], false, 0, 10⟩] := rfl

example :
    run [] [.start, .outsource [1, 2, 3] 0 10, .outsource [4, 5, 6] 0 20,
            .finish [⟨[1, 2], true, 0⟩] [⟨[1, 2], true, 0⟩] false]
      = [⟨[4, 5, 6], true, 0, 20⟩, ⟨[1, 2, 3], false, 0, 10⟩] := rfl

/-- an approved trim removes the unreferenced persisted file -/
example :
    run [⟨[7, 7], false, 1, 5⟩, ⟨[1, 2, 3], false, 0, 10⟩]
        [.start, .finish [] [⟨[1, 2, 3], false, 0⟩] true]
      = [⟨[1, 2, 3], false, 0, 10⟩] := rfl

/-- the hypotheses of `read_hash_has_prefix` are satisfiable with a successful read -/
example :
    let H : Nat → Hash := fun d => [d / 10, d % 10]
    let evs : List Ev := [.start, .outsource [4, 2] 0 42]
    WellHashed H evs ∧ read (run [] evs) ⟨[4], true, 0⟩ = some 42 := by
  refine ⟨?_, rfl⟩
  intro ev hev
  simp only [List.mem_cons, List.not_mem_nil, or_false] at hev
  rcases hev with h | h <;> subst h <;> simp [WellHashedEv]

end ISnap.External
