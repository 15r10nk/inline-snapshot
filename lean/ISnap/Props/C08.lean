import ISnap.Props.C09
/-
  C08 — a second run is a no-op: re-running with the same approved categories changes nothing, and
  after a run with everything approved no category is reported any more.
-/
namespace ISnap.Assign
open ISnap

theorem run_idem (F : Flags) (e : Expr) (n : Val) (he : Managed e) (hn : ValOk n) (hwe : WfExpr e)
    (hwn : WfVal n) : run F (run F e n) n = run F e n := by
  rw [run_compose F F e n he hn hwe hwn]
  congr 1
  cases F; simp [Flags.union]

theorem run_all_nothing_pending (e : Expr) (n : Val) (he : Managed e) (hn : ValOk n) (hwe : WfExpr e)
    (hwn : WfVal n) : cats (run Flags.all e n) n = Flags.empty :=
  nothing_pending_gen Flags.all Flags.empty rfl rfl e (ge_of he hwe) n (gv_of hn hwn)

/-- `fix` and `update` are the only categories this comparison ever reports, so approving these two
    is enough; and then a further run with any approved set changes nothing -/
theorem run_fix_update_nothing_pending (F F' : Flags) (hf : F.fix = true) (hu : F.update = true)
    (e : Expr) (n : Val) (he : Managed e) (hn : ValOk n) (hwe : WfExpr e) (hwn : WfVal n) :
    cats (run F e n) n = Flags.empty ∧ run F' (run F e n) n = run F e n := by
  have h := nothing_pending_gen F F' hf hu e (ge_of he hwe) n (gv_of hn hwn)
  refine ⟨nothing_pending_gen F Flags.empty hf hu e (ge_of he hwe) n (gv_of hn hwn), ?_⟩
  exact run_disjoint F' _ n (by unfold run; rw [h]; rfl) (by unfold run; rw [h]; rfl)

/-- in general: after a run exactly those categories are reported that were reported before and were
    not approved -/
theorem run_pending (F : Flags) (e : Expr) (n : Val) (he : Managed e) (hn : ValOk n) (hwe : WfExpr e)
    (hwn : WfVal n) :
    cats (run F e n) n =
      { fix := (cats e n).fix && !F.fix, update := (cats e n).update && !F.update } := by
  obtain ⟨h1, h3⟩ := cats_create_trim Flags.empty (run F e n) n
  apply Flags.ext_has
  intro c
  cases c
  · exact h1
  · exact pending_fix F Flags.empty e (ge_of he hwe) n (gv_of hn hwn)
  · exact h3
  · exact pending_update F Flags.empty e (ge_of he hwe) n (gv_of hn hwn)

theorem only_fix_update (F : Flags) (e : Expr) (n : Val) :
    (assign F e n).cats.create = false ∧ (assign F e n).cats.trim = false :=
  cats_create_trim F e n

/-! ### non-vacuity -/

section examples
open Ex

example : run fixOnly (run fixOnly e0 n0) n0 = run fixOnly e0 n0 :=
  run_idem _ _ _ (by decide) (by decide) (by decide) (by decide)
example : cats (run Flags.all e0 n0) n0 = Flags.empty :=
  run_all_nothing_pending _ _ (by decide) (by decide) (by decide) (by decide)
example : cats (run fixOnly e0 n0) n0 = { update := true } := by
  rw [run_pending _ _ _ (by decide) (by decide) (by decide) (by decide)]
  -- the first element `1` is spelled non-canonically and compares equal
  have hu : (cats e0 n0).update = true := by
    rw [cats, e0, n0, assign_seq_of (by decide) (by decide)]
    generalize hs : script _ _ = sc
    obtain rfl : sc = [.m, .x, .m] := hs.symm.trans (by decide)
    rw [listOf, assignSeq_m, assign_leaf (gv_atom _)]
    rfl
  simp [hu, fixOnly]
/-- before the run something was pending -/
example : cats e0 n0 ≠ Flags.empty := fun h =>
  absurd ((nofix_iff_eq Flags.empty e0 (by decide) n0 (by decide)).1 (by rw [cats] at h; rw [h]; rfl)) (by decide)

end examples

end ISnap.Assign
