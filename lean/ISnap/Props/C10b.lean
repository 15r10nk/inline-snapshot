import ISnap.Model.Site
/-
  C10 for call sites outside the `==` path (Model/Site.lean): an element of a list / tuple argument whose source
  tokens never need regenerating — this is how the harness encodes a user-controlled element (`Is(v)`, an f-string):
  `canon = true` — is never the reason for an `update`, neither when the snapshot is used with `in` nor when it is
  never used at all.  So update can only be reported when some *managed* element is written differently from its
  generated form, and a collection whose elements are all user-controlled or canonical reports no update at all.
  (Fix 4618305 made the code agree with this: before, `update` rewrote `Is(..)` and f-strings in these two paths.)
-/
namespace ISnap
variable {V : Type}

/-- `x in snapshot([...])`: an update needs an element that is not written canonically -/
theorem coll_update_needs_noncanon (o : Ops V) (s : Leaf V) (es : List (V × Bool)) (l : List V)
    (h1 : s.old = some (.coll es)) (h2 : s.kind = .coll) (h3 : s.newC = some l) (fl : Flags)
    (hc : s.cats o = some fl) (hu : fl.update = true) : ∃ e ∈ es, e.2 = false := by
  simp only [Leaf.cats, h1, h2, h3, Option.some.injEq] at hc
  subst hc
  simp only [List.any_eq_true, Bool.and_eq_true, Bool.not_eq_eq_eq_not, Bool.not_true] at hu
  obtain ⟨e, he, _, hcan⟩ := hu
  exact ⟨e, he, hcan⟩

/-- a snapshot with a list argument that is never used: the same -/
theorem unused_coll_update_needs_noncanon (o : Ops V) (s : Leaf V) (es : List (V × Bool))
    (h1 : s.old = some (.coll es)) (h2 : s.kind = .undecided) (fl : Flags)
    (hc : s.cats o = some fl) (hu : fl.update = true) : ∃ e ∈ es, e.2 = false := by
  simp only [Leaf.cats, h1, h2, Option.some.injEq] at hc
  subst hc
  by_cases hall : es.all (·.2) = true
  · simp [hall, Flags.empty] at hu
  · obtain ⟨e, he, hne⟩ := List.all_eq_false.1 (Bool.eq_false_iff.2 hall)
    exact ⟨e, he, Bool.eq_false_iff.2 hne⟩

/-- all elements user-controlled or canonical: no update, whatever was tested -/
theorem coll_all_canon_no_update (o : Ops V) (s : Leaf V) (es : List (V × Bool)) (l : List V)
    (h1 : s.old = some (.coll es)) (h2 : s.kind = .coll) (h3 : s.newC = some l)
    (hall : ∀ e ∈ es, e.2 = true) : ∃ fl, s.cats o = some fl ∧ fl.update = false := by
  obtain ⟨fl, hfl⟩ : ∃ fl, s.cats o = some fl := by
    simp only [Leaf.cats, h1, h2, h3]; exact ⟨_, rfl⟩
  refine ⟨fl, hfl, ?_⟩
  cases hu : fl.update
  · rfl
  · obtain ⟨e, he, hf⟩ := coll_update_needs_noncanon o s es l h1 h2 h3 fl hfl hu
    rw [hall e he] at hf; cases hf

end ISnap
