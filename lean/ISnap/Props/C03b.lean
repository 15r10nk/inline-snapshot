import ISnap.Lemmas.SeqEditLemmas
/-
  C03 / C11 / C02 at the text level — deleting and inserting elements of a display
  (`generic_sequence_update`, Model/SeqEdit.lean), for every number of elements, every pattern of deletions,
  every set of insertions and any trivia (blanks, line breaks, comments, trailing comma) between the elements:

    * `seqUpdate_is_display`    the text between the braces is a display again (elements separated by exactly
                                one comma, optional trailing comma) and holds exactly the inserted and the kept
                                elements, in order — so the file is still valid Python and evaluates to the value
                                that was computed;
    * `seqUpdate_tuple_comma`   a tuple that ends up with one element ends with a comma (`(x,)`, not `(x)`);
                                needs `insertsAnchored` (the positions the adapters produce), and
                                `tuple_comma_needs_anchor` shows the hypothesis is necessary;
    * `seqUpdate_nothing_to_do` with nothing deleted and nothing inserted (and at least two elements) the text
                                is returned character for character;
    * `seqUpdate_prefix_kept`   everything in front of the first deleted element / first insertion — elements
                                *and* the trivia between them (comments!) — survives verbatim;
    * `original_is_display`     sanity of `wfGaps`: the original text parses to the old elements.
-/
namespace ISnap.SeqEdit

theorem original_is_display (gap0 : List Tok) (es : List Entry) (hwf : wfGaps gap0 es = true) :
    ∃ tc, parse (original gap0 es) = some (es.map (·.key), tc) := by
  rw [wfGaps_eq, Bool.and_eq_true] at hwf
  exact original_parseFrom es gap0 true hwf.1 hwf.2

theorem seqUpdate_is_display (isTuple : Bool) (gap0 : List Tok) (es : List Entry) (ins : List (List Nat))
    (hwf : wfGaps gap0 es = true) :
    ∃ tc, parse (seqUpdate isTuple gap0 es ins) = some (expected es ins, tc) :=
  let ⟨tc, h, _⟩ := seqUpdate_display isTuple gap0 es ins hwf
  ⟨tc, h⟩

theorem seqUpdate_tuple_comma (gap0 : List Tok) (es : List Entry) (ins : List (List Nat))
    (hwf : wfGaps gap0 es = true) (ha : insertsAnchored ins 0 es = true)
    (h1 : (expected es ins).length = 1) :
    parse (seqUpdate true gap0 es ins) = some (expected es ins, true) := by
  obtain ⟨tc, h, hc⟩ := seqUpdate_display true gap0 es ins hwf
  rwa [hc rfl ha h1] at h

/-- without the anchoring hypothesis the claim is false: `(a,)`, delete `a`, insert `x` at position 0 → `(x)` -/
theorem tuple_comma_needs_anchor :
    ∃ gap0 es ins, wfGaps gap0 es = true ∧ (expected es ins).length = 1 ∧
      parse (seqUpdate true gap0 es ins) = some (expected es ins, false) :=
  ⟨[], [{ key := 0, keep := false, gapAfter := [.comma] }], [[7]], by decide, by decide, by decide⟩

theorem seqUpdate_nothing_to_do (isTuple : Bool) (gap0 : List Tok) (es : List Entry) (ins : List (List Nat))
    (hk : es.all (·.keep) = true) (hi : ins.all (·.isEmpty) = true) (hn : 2 ≤ es.length) :
    seqUpdate isTuple gap0 es ins = original gap0 es := by
  obtain ⟨g, hg, h⟩ := loop_kept ins [] es 0 (St.init gap0) hk (fun _ _ => getD_isEmpty_of_all hi _) rfl rfl
  rw [List.append_nil] at h
  rw [seqUpdate, h, loop, finish_kept (getD_isEmpty_of_all hi _) rfl rfl (by simp [St.init]; omega) hn]
  simpa [St.init] using hg

theorem seqUpdate_prefix_kept (isTuple : Bool) (gap0 : List Tok) (es : List Entry) (ins : List (List Nat))
    (k : Nat) (hk : (es.take k).all (·.keep) = true)
    (hi : ∀ i, i < k → (ins.getD i []).isEmpty = true) :
    ∃ rest, seqUpdate isTuple gap0 es ins = prefixText gap0 (es.take k) ++ rest := by
  obtain ⟨g, _, h⟩ := loop_kept ins (es.drop k) (es.take k) 0 (St.init gap0) hk
    (fun j hj => by
      rw [Nat.zero_add]
      exact List.isEmpty_iff.1 (hi j (Nat.lt_of_lt_of_le hj (List.length_take_le k es)))) rfl rfl
  rw [List.take_append_drop] at h
  obtain ⟨r, hr⟩ := run_out_prefix isTuple ins es.length (es.drop k) (0 + (es.take k).length) _
  exact ⟨r, by rw [seqUpdate, h, ← hr]; simp [St.init]⟩

/-! ### non-vacuity: `[a, # c⏎ b, c,]`, delete `b`, insert `x y` in front of `c` and `z` at the end -/

section examples

def exGap0 : List Tok := [.ws 1]
def exEs : List Entry :=
  [{ key := 0, keep := true, gapAfter := [.comma, .ws 2] },
   { key := 1, keep := false, gapAfter := [.ws 3, .comma, .ws 1] },
   { key := 2, keep := true, gapAfter := [.comma] }]
def exIns : List (List Nat) := [[], [], [10, 11], [12]]

example : wfGaps exGap0 exEs = true := by decide
example : insertsAnchored exIns 0 exEs = true := by decide
example : expected exEs exIns = [0, 10, 11, 2, 12] := by decide
example : seqUpdate false exGap0 exEs exIns
    = [.ws 1, .elem 0, .comma, .ws 0, .elem 10, .comma, .ws 0, .elem 11, .comma, .ws 0, .elem 2,
       .comma, .ws 0, .elem 12] := by decide
example : parse (seqUpdate false exGap0 exEs exIns) = some ([0, 10, 11, 2, 12], false) := by decide
/-- a tuple `(a, b)` whose second element is deleted becomes `(a,)` -/
example : seqUpdate true [] [{ key := 0, keep := true, gapAfter := [.comma, .ws 1] },
      { key := 1, keep := false, gapAfter := [] }] [] = [.elem 0, .comma] := by decide

end examples

end ISnap.SeqEdit
