import ISnap.Props.C03
/-
  C20 — `_rewrite_code.py` / formatting: `new_code` keeps a formatter-clean file formatter-clean
  (`clean_stays_clean`), and never reformats a file that was not clean (`dirty_not_reformatted`,
  `dirty_outside_untouched`) unless formatting is enforced by a configured format-command.

  `fmt : Str → Str` is the formatter (black / format-command / identity), `enforce` = a format-command is set.
  The only assumption ever made about `fmt` is idempotence (`clean_stays_clean`).
-/
namespace ISnap.Rewrite

theorem clean_stays_clean (fmt : Str → Str) (enforce : Bool) (t : Str) (rs : List Repl) (r : Str)
    (hid : ∀ x, fmt (fmt x) = fmt x) (hc : enforce = true ∨ fmt t = t)
    (h : newCode fmt enforce t rs = some r) : fmt r = r := by
  rw [(newCode_eq_some.1 h).2, if_pos hc, hid]

theorem clean_result (fmt : Str → Str) (enforce : Bool) (t : Str) (rs : List Repl) (r : Str)
    (hc : enforce = true ∨ fmt t = t) (h : newCode fmt enforce t rs = some r) :
    r = fmt (replaceText t ((sortRepls rs).map (toOffsets t))) :=
  (newCode_eq_some.1 h).2.trans (if_pos hc)

theorem dirty_not_reformatted (fmt : Str → Str) (enforce : Bool) (t : Str) (rs : List Repl) (r : Str)
    (h1 : enforce = false) (h2 : fmt t ≠ t) (h : newCode fmt enforce t rs = some r) :
    r = replaceText t ((sortRepls rs).map (toOffsets t)) := by
  subst h1
  exact newcode_dirty_eq fmt t rs r h h2

/-- the layout outside the edited window `[a, b]` is left alone (`a ≤ b` is forced, see C03 F1) -/
theorem dirty_outside_untouched (fmt : Str → Str) (enforce : Bool) (t : Str) (rs : List Repl) (r : Str)
    (a b : Nat) (h1 : enforce = false) (h2 : fmt t ≠ t) (h : newCode fmt enforce t rs = some r)
    (hab : a ≤ b)
    (hin : ∀ x ∈ rs, a ≤ lineToOffset t x.sl x.sc ∧ lineToOffset t x.el x.ec ≤ b) :
    ∃ mid, r = t.take a ++ mid ++ t.drop b := by
  subst h1
  exact newcode_outside_preserved fmt t rs r a b h h2 hab hin

theorem dirty_formatter_irrelevant (fmt fmt' : Str → Str) (t : Str) (rs : List Repl)
    (h : fmt t ≠ t) (h' : fmt' t ≠ t) : newCode fmt false t rs = newCode fmt' false t rs := by
  rw [newcode_unformatted fmt false t rs rfl h, newcode_unformatted fmt' false t rs rfl h']

/-- an idempotent "formatter": delete all spaces -/
def exStrip : Str → Str := fun s => s.filter (· ≠ 32)

theorem exStrip_idem : ∀ x, exStrip (exStrip x) = exStrip x := by
  intro x; simp [exStrip, List.filter_filter]

theorem exStrip_clean : exStrip exText = exText := by decide

/-- replace the `5` by `4 2` (with a space): the clean file gets the formatted result `42` -/
def exRepls' : List Repl := [⟨2, 4, 2, 5, [52, 32, 50], 0⟩]

theorem exNewCode' : newCode exStrip false exText exRepls' =
    some [97, 61, 49, 13, 10, 233, 61, 115, 40, 52, 50, 41, 13, 10, 122, 10] := by
  rw [newCode_eq, sortRepls_of_sorted (by decide), replaceText_sorted_chained _ _ (by decide)]
  decide

example : exStrip [97, 61, 49, 13, 10, 233, 61, 115, 40, 52, 50, 41, 13, 10, 122, 10] =
    [97, 61, 49, 13, 10, 233, 61, 115, 40, 52, 50, 41, 13, 10, 122, 10] :=
  clean_stays_clean exStrip false exText exRepls' _ exStrip_idem (Or.inr exStrip_clean) exNewCode'

/-- the same file with a space (`a =1…`) is dirty: the space of the file AND of the replacement survive -/
def exDirty : Str := [97, 32, 61, 49, 13, 10, 233, 61, 115, 40, 53, 41, 13, 10, 122, 10]

theorem exDirty_dirty : exStrip exDirty ≠ exDirty := by decide

theorem exNewCodeDirty : newCode exStrip false exDirty [⟨2, 4, 2, 5, [52, 32, 50], 0⟩] =
    some [97, 32, 61, 49, 13, 10, 233, 61, 115, 40, 52, 32, 50, 41, 13, 10, 122, 10] := by
  rw [newCode_eq, sortRepls_of_sorted (by decide), replaceText_sorted_chained _ _ (by decide)]
  decide

example : ∃ mid, [97, 32, 61, 49, 13, 10, 233, 61, 115, 40, 52, 32, 50, 41, 13, 10, 122, 10] =
    exDirty.take 10 ++ mid ++ exDirty.drop 11 :=
  dirty_outside_untouched exStrip false exDirty _ _ 10 11 rfl exDirty_dirty exNewCodeDirty
    (by decide) (by decide)

/-- with `enforce` the dirty file IS reformatted as a whole -/
example : newCode exStrip true exDirty [⟨2, 4, 2, 5, [52, 32, 50], 0⟩] =
    some [97, 61, 49, 13, 10, 233, 61, 115, 40, 52, 50, 41, 13, 10, 122, 10] := by
  rw [newCode_eq, sortRepls_of_sorted (by decide), replaceText_sorted_chained _ _ (by decide)]
  decide

end ISnap.Rewrite
