import ISnap.Props.C05
/-
  C05 (second part) — the bound categories for ONE observed comparison, for EVERY `Ops V`.

  `Props/C05.lean` states what fix / trim mean for a `<=` / `>=` site over an arbitrary observation
  sequence; those theorems need a total order (`TotalLe o`).  For a site `snapshot(v)` that sees exactly
  one comparison `x <= s` / `x >= s` no law about `le` is needed at all: `le` may be a partial order
  (set inclusion), a preorder, or any relation.
    * fix is reported exactly when the comparison against the stored value fails;
    * trim is only ever reported for a comparison that holds (trim removes slack, it never repairs);
    * for incomparable values (neither `v ≤ x` nor `x ≤ v`) the category is fix and not trim.
-/
namespace ISnap
variable {V : Type}

section single
variable (o : Ops V) (f : Flags) (op : Op) (hop : isMM op) (v : V) (c : Bool) (x : V)

include hop in
/-- `bound_run_spec` needs no law about `o`, and the extreme of one observation is that observation -/
theorem single_cats :
    (afterObs o f (some (.leaf v c)) op [x]).cats o = some (mmFlags o op.kind v c x) := by
  rw [bound_run_spec o f op hop v c x []]
  exact (mm_cats_final o op.kind (kind_mm op hop) v c x {}).1

include hop in
/-- one observation, any relation: fix is reported exactly when the comparison against the stored
    value fails -/
theorem single_fix_iff :
    ∃ fl, (afterObs o f (some (.leaf v c)) op [x]).cats o = some fl ∧
      (fl.fix = true ↔ plainOp o (.leaf v c) op x = .val false) := by
  refine ⟨_, single_cats o f op hop v c x, ?_⟩
  simp [plain_bound o op v c x hop, mmFlags_eq]

include hop in
/-- … and trim is never reported for a comparison that fails (trim only removes slack) -/
theorem single_trim_only_if_holds :
    ∃ fl, (afterObs o f (some (.leaf v c)) op [x]).cats o = some fl ∧
      (fl.trim = true → plainOp o (.leaf v c) op x = .val true) := by
  refine ⟨_, single_cats o f op hop v c x, ?_⟩
  simp only [plain_bound o op v c x hop, mmFlags_eq, Bool.and_eq_true, Res.val.injEq]
  exact fun h => h.1

include hop in
/-- incomparable values (neither `v ≤ x` nor `x ≤ v`): the category is fix, not trim -/
theorem single_incomparable_is_fix (h1 : o.le v x = false) (h2 : o.le x v = false) :
    ∃ fl, (afterObs o f (some (.leaf v c)) op [x]).cats o = some fl ∧ fl.fix = true ∧ fl.trim = false := by
  refine ⟨_, single_cats o f op hop v c x, ?_⟩
  rcases hop with rfl | rfl <;> simp [mmFlags_eq, cmpK, Op.kind, h1, h2]

include hop in
/-- corollary: fix and trim are never reported together, and with a failing comparison the only
    category is fix (no update, no create) -/
theorem single_fails_exactly_fix (hfail : plainOp o (.leaf v c) op x = .val false) :
    (afterObs o f (some (.leaf v c)) op [x]).cats o = some (Flags.single .fix) := by
  rw [single_cats o f op hop v c x]
  rw [plain_bound o op v c x hop] at hfail
  simp only [Res.val.injEq] at hfail
  simp [mmFlags, minMaxFlag, hfail]

end single

/-- bit masks ordered by inclusion -/
def subsetOps : Ops Nat :=
  { eqv := fun a b => a == b, le := fun a b => (a &&& b) == a, same := fun a b => a == b }

/-- `{0,1}` and `{2}` are incomparable: `subsetOps` is not a total order -/
example : subsetOps.le 3 4 = false ∧ subsetOps.le 4 3 = false := by decide

example : ¬ TotalLe subsetOps := fun h => by
  have := h.total 3 4
  revert this; decide

/-- `{2} <= snapshot({0,1})`: the reported categories are exactly `{fix}` -/
example : (afterObs subsetOps {} (some (.leaf 3 true)) .ge [4]).cats subsetOps = some { fix := true } := by
  decide

example : (afterObs subsetOps {} (some (.leaf 3 true)) .le [4]).cats subsetOps = some { fix := true } := by
  decide

/-- the hypotheses of `single_incomparable_is_fix` are met by this instance -/
example : ∃ fl, (afterObs subsetOps {} (some (.leaf 3 true)) .ge [4]).cats subsetOps = some fl ∧
    fl.fix = true ∧ fl.trim = false :=
  single_incomparable_is_fix subsetOps {} .ge (Or.inl rfl) 3 true 4 (by decide) (by decide)

/-- comparable and slack: `{0} <= snapshot({0,1})` reports trim, and the comparison holds -/
example : (afterObs subsetOps {} (some (.leaf 3 true)) .ge [1]).cats subsetOps = some { trim := true } := by
  decide

end ISnap
