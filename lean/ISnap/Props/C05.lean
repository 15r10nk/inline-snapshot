import ISnap.Lemmas.SiteRun
/-
  C05 — each category means what the documentation says (site level, arguments without
  user-controlled parts, handled as one expression; list display for `in`).

  For a call site that is used with ONE operation kind over an arbitrary observation sequence `xs`
  (loops, several tests), starting from the stored argument:
    * create is reported iff the argument is missing, and fills it; it is never reported for an
      existing argument;
    * fix is reported iff some observed comparison fails on the stored value; once applied every
      observed comparison holds;
    * trim is reported iff all hold but the bound is not attained / a member was never tested, and
      yields the tightest value (the attained extreme / exactly the tested members);
    * with neither fix nor trim nor create approved the value is unchanged (update never changes it).
  Bounds need a total order (scope of the property); membership needs `==` to be an equivalence.
-/
namespace ISnap
variable {V : Type}

/-- create: reported exactly for a missing argument that was used; fills it with the recorded value -/
theorem create_only_fills_missing (o : Ops V) (s : Leaf V) (h : s.old = none) (ap : Flags) :
    s.cats o = some (if s.new.isSome || s.newC.isSome then Flags.single .create else Flags.empty) ∧
    s.final o ap = (if ap.create then s.newVal else .noArg) := by
  simp [Leaf.cats, Leaf.final, h]

/-- create is never reported for an existing argument -/
theorem create_keeps_existing (o : Ops V) (s : Leaf V) (a : OldArg V) (h : s.old = some a)
    (fl : Flags) (hc : s.cats o = some fl) : fl.create = false := by
  rw [Leaf.cats_create o s fl hc, h]; rfl

section bounds
variable (o : Ops V) (tot : TotalLe o) (f : Flags) (op : Op) (hop : isMM op)
  (v : V) (c : Bool) (xs : List V) (hne : xs ≠ [])

/-- the site after the observations `xs`, started from `snapshot(old)` (`old = none`: `snapshot()`) -/
abbrev afterObs (o : Ops V) (f : Flags) (old : Option (OldArg V)) (op : Op) (xs : List V) : Leaf V :=
  (({ old := old } : Leaf V).runOps o f op xs).1

include hop in
theorem bound_run_spec (x : V) (xs : List V) :
    afterObs o f (some (.leaf v c)) op (x :: xs) =
      { old := some (.leaf v c), kind := op.kind, new := some (extreme o op.kind x xs) } :=
  runOps_mm o f op hop x xs _ (.inl rfl) (by rcases hop with rfl | rfl <;> trivial)

theorem plain_bound (x : V) (hop' : isMM op) :
    plainOp o (.leaf v c) op x = .val (cmpK o op.kind v x) := by
  rcases hop' with rfl | rfl <;> rfl

theorem kind_mm (hop' : isMM op) : op.kind = .mn ∨ op.kind = .mx := by
  rcases hop' with rfl | rfl
  · exact .inr rfl
  · exact .inl rfl

include tot hop hne in
theorem bound_cats_final (ap : Flags) :
    ∃ n, (∀ x ∈ xs, cmpK o op.kind n x = true) ∧ n ∈ xs ∧
      (afterObs o f (some (.leaf v c)) op xs).cats o = some (mmFlags o op.kind v c n) ∧
      (afterObs o f (some (.leaf v c)) op xs).final o ap =
        (match minMaxFlag o op.kind v c n with
         | some g => if ap.has g then .one n else .one v
         | none => .one v) := by
  obtain ⟨x, xs, rfl⟩ := List.exists_cons_of_ne_nil hne
  obtain ⟨hmem, hall⟩ := extreme_spec tot op.kind xs x
  rw [bound_run_spec o f op hop v c x xs]
  exact ⟨_, hall, hmem, mm_cats_final o op.kind (kind_mm op hop) v c _ ap⟩

include tot hop hne in
/-- fix is reported exactly when some observed comparison fails on the stored value -/
theorem fix_reported_iff_bound :
    ∃ fl, (afterObs o f (some (.leaf v c)) op xs).cats o = some fl ∧
      (fl.fix = true ↔ ∃ x ∈ xs, plainOp o (.leaf v c) op x = .val false) := by
  obtain ⟨n, hall, hmem, hcats, _⟩ := bound_cats_final o tot f op hop v c xs hne {}
  refine ⟨_, hcats, ?_⟩
  -- fix: `v` fails against the extreme `n`, that is (`cmpK_least`) against some observation
  simp [plain_bound o op v c _ hop, mmFlags_eq, cmpK_least tot _ hmem hall]

include tot hop hne in
/-- trim is reported exactly when every comparison holds and the bound is attained by no observation -/
theorem trim_reported_iff_bound :
    ∃ fl, (afterObs o f (some (.leaf v c)) op xs).cats o = some fl ∧
      (fl.trim = true ↔ (∀ x ∈ xs, plainOp o (.leaf v c) op x = .val true) ∧
                          (∀ x ∈ xs, cmpK o op.kind x v = false)) := by
  obtain ⟨n, hall, hmem, hcats, _⟩ := bound_cats_final o tot f op hop v c xs hne {}
  refine ⟨_, hcats, ?_⟩
  -- trim: `v` holds against `n` and `n` does not reach `v`, that is: against all, and none reaches it
  simp [plain_bound o op v c _ hop, mmFlags_eq, cmpK_least tot _ hmem hall]

include tot hop hne in
/-- once fix is applied, every observed comparison holds on the value in the source -/
theorem fix_applied_all_hold_bound (ap : Flags) (hap : ap.fix = true) :
    ∃ w, (afterObs o f (some (.leaf v c)) op xs).final o ap = .one w ∧
      ∀ x ∈ xs, cmpK o op.kind w x = true := by
  obtain ⟨n, hall, hmem, _, hfin⟩ := bound_cats_final o tot f op hop v c xs hne ap
  rw [hfin]
  by_cases hc : cmpK o op.kind v n = true
  · have hv : ∀ x ∈ xs, cmpK o op.kind v x = true := fun x hx => (cmpK_totalLe tot _).trans _ _ _ hc (hall x hx)
    split
    · split
      · exact ⟨n, rfl, hall⟩
      · exact ⟨v, rfl, hv⟩
    · exact ⟨v, rfl, hv⟩
  · have hg : minMaxFlag o op.kind v c n = some .fix := (minMaxFlag_eq_some ..).2 (by simpa using hc)
    exact ⟨n, by simp [hg, Flags.has, hap], hall⟩

include tot hop hne in
/-- trim yields the tightest value: it satisfies every observation and every value that does is
    beyond it -/
theorem trim_tightest_bound (ap : Flags) (hap : ap.trim = true)
    (fl : Flags) (hfl : (afterObs o f (some (.leaf v c)) op xs).cats o = some fl) (ht : fl.trim = true) :
    ∃ n, (afterObs o f (some (.leaf v c)) op xs).final o ap = .one n ∧
      (∀ x ∈ xs, cmpK o op.kind n x = true) ∧
      (∀ w, (∀ x ∈ xs, cmpK o op.kind w x = true) → cmpK o op.kind w n = true) := by
  obtain ⟨n, hall, hmem, hcats, hfin⟩ := bound_cats_final o tot f op hop v c xs hne ap
  rw [hcats] at hfl; cases hfl
  rw [mmFlags_eq] at ht
  have hg : minMaxFlag o op.kind v c n = some .trim :=
    (minMaxFlag_eq_some ..).2 (by simpa using ht)
  exact ⟨n, by rw [hfin, hg]; simp [Flags.has, hap], hall, fun w hw => hw n hmem⟩

include tot hop hne in
/-- without fix and trim approved the value in the source is unchanged up to the order's equality
    (an update never changes the value) -/
theorem update_keeps_value_bound (ap : Flags) (h1 : ap.fix = false) (h2 : ap.trim = false) :
    ∃ w, (afterObs o f (some (.leaf v c)) op xs).final o ap = .one w ∧
      cmpK o op.kind v w = true ∧ cmpK o op.kind w v = true := by
  obtain ⟨n, hall, hmem, _, hfin⟩ := bound_cats_final o tot f op hop v c xs hne ap
  rw [hfin]
  have hvv : cmpK o op.kind v v = true := (cmpK_totalLe tot _).refl _
  -- the value changes only where an approved category is pending, and that can only be update
  cases hm : minMaxFlag o op.kind v c n with
  | none => exact ⟨v, rfl, hvv, hvv⟩
  | some g =>
    by_cases hg : ap.has g = true
    · have hu := (minMaxFlag_eq_some ..).1 hm
      cases g
      · exact hu.elim
      · exact absurd hg (by simp [Flags.has, h1])
      · exact absurd hg (by simp [Flags.has, h2])
      · exact ⟨n, by simp [hg], hu.1, hu.2.1⟩
    · exact ⟨v, by simp [hg], hvv, hvv⟩

end bounds

section membership
variable (o : Ops V) (eqv : EqvLaws o) (f : Flags) (es : List (V × Bool)) (xs : List V) (hne : xs ≠ [])

include eqv hne in
theorem coll_run_spec :
    ∃ l, afterObs o f (some (.coll es)) .isin xs = { old := some (.coll es), kind := .coll, newC := some l } ∧
      ∀ y, memBy o.eqv y l = memBy o.eqv y xs := by
  obtain ⟨x, xs, rfl⟩ := List.exists_cons_of_ne_nil hne
  exact ⟨_, runOps_coll o f x xs _ (.inl rfl) trivial, mem_gathered_fresh eqv x xs⟩

theorem memBy_iff (eq : V → V → Bool) (x : V) (l : List V) :
    memBy eq x l = true ↔ ∃ y ∈ l, eq x y = true := by
  simp [memBy]

include eqv in
theorem exists_eqv_of_mem {l xs : List V} (hmem : ∀ y, memBy o.eqv y l = memBy o.eqv y xs) {y : V}
    (hy : y ∈ l) : ∃ x ∈ xs, o.eqv y x = true :=
  (memBy_iff _ _ _).1 (hmem y ▸ (memBy_iff _ _ _).2 ⟨y, hy, eqv.refl y⟩)

include eqv hne in
/-- fix is reported iff some tested value is not a member; trim iff some member was never tested -/
theorem fix_trim_reported_iff_coll :
    ∃ fl, (afterObs o f (some (.coll es)) .isin xs).cats o = some fl ∧
      (fl.fix = true ↔ ∃ x ∈ xs, plainOp o (.coll es) .isin x = .val false) ∧
      (fl.trim = true ↔ ∃ e ∈ es, memBy o.eqv e.1 xs = false) ∧
      fl.create = false := by
  obtain ⟨l, hst, hmem⟩ := coll_run_spec o eqv f es xs hne
  rw [hst]
  refine ⟨_, rfl, ?_, ?_, rfl⟩
  · -- a recorded value outside the old list is equal to a tested one, which is outside too; and back
    simp only [plainOp, List.any_eq_true, Bool.not_eq_true', Res.val.injEq]
    constructor
    · rintro ⟨y, hy, hyo⟩
      obtain ⟨x, hx, hyx⟩ := exists_eqv_of_mem o eqv hmem hy
      exact ⟨x, hx, by rw [← memBy_congr eqv y x _ hyx]; exact hyo⟩
    · rintro ⟨x, hx, hxo⟩
      obtain ⟨y, hy, hxy⟩ := exists_eqv_of_mem o eqv (fun y => (hmem y).symm) hx
      exact ⟨y, hy, by rw [← memBy_congr eqv x y _ hxy]; exact hxo⟩
  · simp only [List.any_eq_true, Bool.not_eq_true', hmem]

include eqv hne in
/-- after fix every tested value is a member; after trim (nothing to fix) exactly the tested
    members remain — the tightest list; with neither approved the list is unchanged -/
theorem coll_final (ap : Flags) :
    ∃ vs, (afterObs o f (some (.coll es)) .isin xs).final o ap = .many vs ∧
      (ap.fix = true → ∀ x ∈ xs, memBy o.eqv x vs = true) ∧
      (ap.trim = true → ∀ y ∈ vs, memBy o.eqv y xs = true) ∧
      (ap.fix = false → ap.trim = false → vs = es.map (·.1)) := by
  obtain ⟨l, hst, hmem⟩ := coll_run_spec o eqv f es xs hne
  rw [hst]
  refine ⟨_, rfl, ?_, ?_, ?_⟩
  · intro hfix x hx
    obtain ⟨y, hy, hxy⟩ := exists_eqv_of_mem o eqv (fun y => (hmem y).symm) hx
    rw [memBy_append, Bool.or_eq_true]
    by_cases hyo : memBy o.eqv y (es.map (·.1)) = true
    · left
      obtain ⟨z, hz, hyz⟩ := (memBy_iff _ _ _).1 hyo
      have hzl : memBy o.eqv z l = true := (memBy_iff _ _ _).2 ⟨y, hy, eqv.symm _ _ hyz⟩
      exact (memBy_iff _ _ _).2 ⟨z, List.mem_filter.2 ⟨hz, by simp [hzl]⟩, eqv.trans _ _ _ hxy hyz⟩
    · right
      simp only [hfix, if_true]
      exact (memBy_iff _ _ _).2 ⟨y, List.mem_filter.2 ⟨hy, by simpa using hyo⟩, hxy⟩
  · intro htrim y hy
    rcases List.mem_append.1 hy with h | h
    · have := (List.mem_filter.1 h).2
      simp only [htrim, Bool.true_and, Bool.not_not] at this
      rw [← hmem]; exact this
    · split at h
      · have hyl := (List.mem_filter.1 h).1
        rw [← hmem]; exact (memBy_iff _ _ _).2 ⟨y, hyl, eqv.refl y⟩
      · cases h
  · intro h1 h2
    simp [h1, h2]

end membership

/-- `==` observed any number of times: only the first compared value `x` counts -/
theorem eq_categories_run (o : Ops V) (hrefl : ∀ a, o.eqv a a = true) (f : Flags) (v : V) (c : Bool) (x : V)
    (xs : List V) (ap : Flags) :
    let s := afterObs o f (some (.leaf v c)) .eq (x :: xs)
    ∃ fl, s.cats o = some fl ∧ (fl.fix = true ↔ o.eqv v x = false) ∧ fl.create = false ∧ fl.trim = false ∧
      (o.eqv v x = false → ap.fix = true → s.final o ap = .one x) ∧
      (ap.fix = false → ∃ w, s.final o ap = .one w ∧ (w = v ∨ o.eqv v w = true)) := by
  intro s
  rw [show s = { old := some (.leaf v c), kind := .eq, new := some (if o.eqv v x && o.same v x then v else x) }
    from runOps_eq o f x xs _ (.inl rfl) trivial]
  generalize hn : (if o.eqv v x && o.same v x then v else x) = n
  cases hx : o.eqv v x
  · obtain rfl : x = n := by rw [← hn, hx]; rfl
    refine ⟨Flags.single .fix, ?_, ⟨fun _ => rfl, fun _ => rfl⟩, rfl, rfl, fun _ hf => ?_,
      fun hf => ⟨v, ?_, .inl rfl⟩⟩
    · simp only [Leaf.cats, hx]; rfl
    · simp only [Leaf.final, hx, hf]; rfl
    · simp only [Leaf.final, hx, hf]; rfl
  · -- equal: the recorded value is `v` or `x`, equal to `v` either way, so at most an update
    have hvn : o.eqv v n = true := by subst hn; split <;> simp [hrefl, hx]
    simp only [Leaf.cats, Leaf.final, hvn]
    cases c && o.same v n <;> simp [Flags.single, Flags.empty]
    intro _; split
    · exact ⟨n, rfl, .inr hvn⟩
    · exact ⟨v, rfl, .inl rfl⟩

/-- `x == snapshot(v)`: fix iff the (first) compared value differs; afterwards it is that value;
    without fix the value stays equal to `v` (copyable values are equal to themselves) -/
theorem eq_categories (o : Ops V) (hrefl : ∀ a, o.eqv a a = true) (f : Flags) (v : V) (c : Bool) (x : V)
    (ap : Flags) :
    let s := afterObs o f (some (.leaf v c)) .eq [x]
    ∃ fl, s.cats o = some fl ∧ (fl.fix = true ↔ o.eqv v x = false) ∧ fl.create = false ∧ fl.trim = false ∧
      (o.eqv v x = false → ap.fix = true → s.final o ap = .one x) ∧
      (ap.fix = false → ∃ w, s.final o ap = .one w ∧ (w = v ∨ o.eqv v w = true)) :=
  eq_categories_run o hrefl f v c x [] ap

def intOps5 : Ops Int := { eqv := (· == ·), le := (· ≤ ·), same := (· == ·) }

theorem intOps5_total : TotalLe intOps5 :=
  ⟨fun a => decide_eq_true (Int.le_refl a),
   fun _ _ _ h1 h2 => decide_eq_true (Int.le_trans (of_decide_eq_true h1) (of_decide_eq_true h2)),
   fun a b => (Int.le_total a b).imp decide_eq_true decide_eq_true⟩

theorem intOps5_eqv : EqvLaws intOps5 :=
  ⟨fun a => beq_self_eq_true a, fun _ _ h => beq_iff_eq.2 (beq_iff_eq.1 h).symm,
   fun _ _ _ h1 h2 => beq_iff_eq.2 ((beq_iff_eq.1 h1).trans (beq_iff_eq.1 h2))⟩

/-- `snapshot(7)` observed with `3 <= s`, `5 <= s`: trim pending, tightest value 5 -/
example : (afterObs intOps5 {} (some (.leaf 7 true)) .ge [3, 5]).cats intOps5 = some { trim := true } := by
  decide

example : ∃ w, (afterObs intOps5 {} (some (.leaf 7 true)) .ge [3, 5]).final intOps5 { trim := true } = .one w
    ∧ w = 5 := ⟨5, by rfl, rfl⟩

end ISnap
