import ISnap.Lemmas.AssignLemmas
/-
  C11 (second part) — elements that compare equal are kept: if the observed value equals the value of
  the argument and `update` is not approved, the argument expression is untouched at every depth
  (equal elements form the common prefix of `align`, so the script is all `m`;
  `Align.align_prefix_suffix` via `script_of_eqL`).
-/
namespace ISnap.Assign
open ISnap

theorem equal_kept (F : Flags) (e : Expr) (n : Val) (hu : F.update = false) (he : Managed e)
    (heq : pyEq (eval e) n = true) (hn : ValOk n) (hwe : WfExpr e) (hwn : WfVal n) :
    run F e n = e :=
  equal_kept_gen F hu e (ge_of he hwe) n (gv_of hn hwn) heq

/-- more generally (no assumption on `e` or `n` at all): a run that approves none of the categories
    reported for the comparison changes nothing -/
theorem nothing_reported_nothing_changed (F : Flags) (e : Expr) (n : Val)
    (h1 : ((assign F e n).cats.fix && F.fix) = false)
    (h2 : ((assign F e n).cats.update && F.update) = false) : run F e n = e :=
  run_disjoint F e n h1 h2

/-- the same with the reported categories `cats e n` -/
theorem nothing_approved_nothing_changed (F : Flags) (e : Expr) (n : Val)
    (h1 : ((cats e n).fix && F.fix) = false) (h2 : ((cats e n).update && F.update) = false) :
    run F e n = e := by
  apply run_disjoint F e n <;> rw [(indep_gen F Flags.empty e n).1] <;> assumption

/-- pairwise equal sequences of the same length are aligned element by element -/
theorem equal_all_m (olds news : List Val) (h : pyEq.eqL olds news = true) :
    script olds news = List.replicate olds.length Align.Dir.m :=
  script_of_eqL h

/-! ### non-vacuity -/

section examples
open Ex

/-- `e0` against an equal value that is written differently (`True`/`1`, dict key order):
    with `fix` approved nothing is rewritten -/
example : run fixOnly e0 n1 = e0 :=
  equal_kept _ _ _ rfl (by decide) (by decide) (by decide) (by decide) (by decide)
example : run Flags.empty e0 n0 = e0 := nothing_reported_nothing_changed _ _ _ (by simp [Flags.empty])
  (by simp [Flags.empty])
example : script [.atom (.int 1), .atom (.bool true)] [.atom (.bool true), .atom (.int 1)]
    = [.m, .m] := by decide

end examples

end ISnap.Assign
