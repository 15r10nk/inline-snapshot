import ISnap.Props.C11c
/-
  C11 (fourth part) — positional arguments of a hand-written constructor call (`A(1, 2, c=3)`),
  `assignCallPos` of `Model/CallAssign.lean`: each is reported as fix whatever its value (recorded finding
  KF-C05-2) and comes back as a keyword argument once fix is approved.
-/
namespace ISnap.CallAssign
open ISnap ISnap.Assign List

theorem union_empty_right (a : Flags) : a.union Flags.empty = a := by
  cases a; simp [Flags.union, Flags.empty]

/-- any positional argument is reported as fix, whatever its value (this is the recorded finding
    KF-C05-2 as a theorem) -/
theorem pos_reports_fix (F : Flags) (pos : List Expr) (kw : List (Nat × Expr)) (fields : List Field)
    (h : pos ≠ []) : (assignCallPos F pos kw fields).cats.fix = true := by
  cases pos with
  | nil => exact absurd rfl h
  | cons e rest => exact Bool.or_true _

/-- … and this is independent of the approved categories and of the values: the reported set is the
    keyword-only set plus fix -/
theorem pos_cats (F : Flags) (pos : List Expr) (kw : List (Nat × Expr)) (fields : List Field)
    (h : pos ≠ []) :
    (assignCallPos F pos kw fields).cats = (assignCall F kw fields).cats.union (Flags.single .fix) := by
  cases pos with
  | nil => exact absurd rfl h
  | cons e rest => rfl

/-- without fix nothing about the positional arguments changes and the keywords are those of the
    keyword-only model -/
theorem pos_without_fix (F : Flags) (pos : List Expr) (kw : List (Nat × Expr)) (fields : List Field)
    (hF : F.fix = false) :
    (assignCallPos F pos kw fields).pos = pos ∧
    (assignCallPos F pos kw fields).kw = (assignCall F kw fields).kw := by
  unfold assignCallPos; rw [hF]; exact ⟨rfl, rfl⟩

/-- with fix every positional argument is gone -/
theorem pos_with_fix (F : Flags) (pos : List Expr) (kw : List (Nat × Expr)) (fields : List Field)
    (hF : F.fix = true) : (assignCallPos F pos kw fields).pos = [] := by
  unfold assignCallPos; rw [hF]; rfl

/-- no positional arguments: exactly the keyword-only model -/
theorem pos_nil (F : Flags) (kw : List (Nat × Expr)) (fields : List Field) :
    (assignCallPos F [] kw fields).kw = (assignCall F kw fields).kw ∧
    (assignCallPos F [] kw fields).cats = (assignCall F kw fields).cats ∧
    (assignCallPos F [] kw fields).merged = (assignCall F kw fields).merged := by
  refine ⟨?_, union_empty_right _, rfl⟩
  -- weaving over `[].map _ ++ old` from offset `[].length` is the keyword-only weaving, by computation
  unfold assignCallPos assignCall
  cases F.fix <;> rfl

/-- the value the comparison is answered with does not depend on how the arguments were written -/
theorem pos_merged (F : Flags) (pos : List Expr) (kw : List (Nat × Expr)) (fields : List Field) :
    (assignCallPos F pos kw fields).merged = (assignCall F kw fields).merged := rfl

/-! ### non-vacuity -/

section examples
open Ex

/-- `A(4, b=1)` against the new object `a=4, b=1`: the positional argument already has the right value -/
def posP : List Expr := [.leaf 0 true (.atom (.int 4))]
def kwP : List (Nat × Expr) := [(1, .leaf 1 true (.atom (.int 1)))]
def fieldsP : List Field := [(0, .atom (.int 4), false), (1, .atom (.int 1), false)]

/-- … fix is reported nevertheless (KF-C05-2), and nothing else -/
example : (assignCallPos {} posP kwP fieldsP).cats = Flags.single .fix := by
  simp only [assignCallPos, assignCall, oldKeywords, kwP, fieldsP, lookupF, assign_leaf (gv_atom _),
    reduceCtorEq, ↓reduceIte]
  rfl

/-- nothing approved: the call keeps its text -/
example : (assignCallPos {} posP kwP fieldsP).pos = posP ∧ (assignCallPos {} posP kwP fieldsP).kw = kwP := by
  simp only [assignCallPos, assignCall, oldKeywords, kwP, fieldsP, lookupF, assign_leaf (gv_atom _),
    reduceCtorEq, ↓reduceIte]
  exact ⟨trivial, rfl⟩

/-- fix approved: the positional argument is gone, `a` comes back as a keyword, `b` keeps its text -/
example : (assignCallPos fixOnly posP kwP fieldsP).pos = [] ∧
    (assignCallPos fixOnly posP kwP fieldsP).kw =
      [(0, .leaf 0 true (.atom (.int 4))), (1, .leaf 1 true (.atom (.int 1)))] := by
  simp only [assignCallPos, assignCall, oldKeywords, kwP, fieldsP, lookupF, assign_leaf (gv_atom _),
    reduceCtorEq, ↓reduceIte]
  exact ⟨rfl, rfl⟩

end examples

end ISnap.CallAssign
