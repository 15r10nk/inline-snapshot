import ISnap.Lemmas.AlignAnchor
import ISnap.Props.C03b
/-
  C03 / C02 — the hypothesis `insertsAnchored` of `seqUpdate_tuple_comma` (Props/C03b.lean) is met by every
  edit script `SequenceAdapter.assign` can compute: `add_x(align(old, new))` never contains an insertion
  directly followed by a deletion (`nw_align` prefers `i` over `d` on ties while walking back, so inside an
  edit block the deletions come first), hence whenever code is inserted at a position in front of old
  elements, the next old element is kept (`adapter_inserts_anchored`).  Consequently a tuple display that ends
  up with one element always keeps its trailing comma, for every old and new tuple and any equality relation
  between their elements (`tuple_edit_keeps_comma`).
-/
namespace ISnap.SeqEdit
open ISnap.Align

theorem align_no_insert_before_delete (E : Nat → Nat → Bool) (n m : Nat) :
    noID (addX (align E n m)) = true :=
  (relabel_noID (addX_relabel _) (align_noID E n m)).1

theorem adapter_inserts_anchored (E : Nat → Nat → Bool) (n m : Nat) (gap : Nat → List Tok) :
    insertsAnchored (plan gap (addX (align E n m)) 0 0 []).2 0 (plan gap (addX (align E n m)) 0 0 []).1 = true :=
  plan_anchored gap _ 0 0 [] (align_no_insert_before_delete E n m)
    (validX_iff_segX.1 (addX_align E n m).1).no_e fun h => absurd rfl h

theorem tuple_edit_keeps_comma (E : Nat → Nat → Bool) (n m : Nat) (gap0 : List Tok) (gap : Nat → List Tok)
    (hwf : wfGaps gap0 (plan gap (addX (align E n m)) 0 0 []).1 = true)
    (h1 : (expected (plan gap (addX (align E n m)) 0 0 []).1 (plan gap (addX (align E n m)) 0 0 []).2).length = 1) :
    parse (seqUpdate true gap0 (plan gap (addX (align E n m)) 0 0 []).1 (plan gap (addX (align E n m)) 0 0 []).2)
      = some (expected (plan gap (addX (align E n m)) 0 0 []).1 (plan gap (addX (align E n m)) 0 0 []).2, true) :=
  seqUpdate_tuple_comma gap0 _ _ hwf (adapter_inserts_anchored E n m gap) h1

-- old `(a, b)`, new `(c,)`, nothing equal

section examples
def exE : Nat → Nat → Bool := fun _ _ => false
def exGap : Nat → List Tok := fun k => if k = 0 then [.comma, .ws 1] else []
example : addX (align exE 2 1) = [.d, .x] ∨ addX (align exE 2 1) = [.x, .d] ∨ addX (align exE 2 1) = [.d, .d, .i] := by decide
example : wfGaps [] (plan exGap (addX (align exE 2 1)) 0 0 []).1 = true := by decide
example : noID [.d, .i, .m] = true ∧ noID [.i, .d] = false := by decide
end examples

end ISnap.SeqEdit
