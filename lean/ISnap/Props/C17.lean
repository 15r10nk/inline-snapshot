import ISnap.Lemmas.SiteStep
/-
  C17 — what is recorded is the value at comparison time.

  Heap model: compared objects live in a heap `ref ↦ value`; the test interleaves comparisons
  (which hand the snapshot a *reference*) with in-place mutations.  `runH` is the model of the code:
  every comparison reads the heap at that moment and stores a copy (`clone`).
  `recorded_is_value_at_comparison_time`: the table after any schedule equals the table obtained by
  running the comparisons on the values the references held when compared — so mutations after or
  between assertions cannot alter what is written.  `unequal_copy_rejected`: a value whose deep copy
  is not equal is answered with a usage error and nothing is recorded.
-/
namespace ISnap
variable {V : Type}

inductive HEvent (V : Type) where
  | op (site : Nat) (key : Option V) (op : Op) (ref : Nat)   -- compare the object `ref` points to
  | mutate (ref : Nat) (v : V)                                   -- in-place mutation of that object
  | snap (site : Nat) (old : Option (OldArg V))

abbrev Heap (V : Type) := Nat → V

def Heap.set (h : Heap V) (r : Nat) (v : V) : Heap V := fun r' => if r' = r then v else h r'

/-- the model of the code on a heap: a comparison clones the current value of the object -/
def runH (o : Ops V) (f : Flags) (t : Table V) (h : Heap V) : List (HEvent V) → Table V
  | [] => t
  | .op k key op r :: es => runH o f (t.step o f (.op k key op (h r) true)).1 h es
  | .mutate r v :: es => runH o f t (h.set r v) es
  | .snap k old :: es => runH o f (t.step o f (.snap k old)).1 h es

/-- the comparisons with the value each object had at the moment it was compared -/
def resolve (h : Heap V) : List (HEvent V) → List (Event V)
  | [] => []
  | .op k key op r :: es => .op k key op (h r) true :: resolve h es
  | .mutate r v :: es => resolve (h.set r v) es
  | .snap k old :: es => .snap k old :: resolve h es

theorem recorded_is_value_at_comparison_time (o : Ops V) (f : Flags) (es : List (HEvent V))
    (t : Table V) (h : Heap V) :
    runH o f t h es = (Table.run o f t (resolve h es)).1 := by
  induction es generalizing t h with
  | nil => rfl
  | cons e es ih =>
    cases e <;> exact ih _ _

/-- mutations after the last comparison change nothing that will be written -/
theorem mutation_after_irrelevant (o : Ops V) (f : Flags) (es : List (HEvent V)) (t : Table V)
    (h : Heap V) (ms : List (Nat × V)) :
    runH o f t h (es ++ ms.map (fun m => .mutate m.1 m.2)) = runH o f t h es := by
  induction es generalizing t h with
  | nil =>
    induction ms generalizing h with
    | nil => rfl
    | cons m ms ih => exact ih _
  | cons e es ih => cases e <;> exact ih _ _

/-- a value whose deep copy is not equal to it: usage error, nothing recorded -/
theorem unequal_copy_rejected (o : Ops V) (f : Flags) (s : Leaf V) (op : Op) (x : V)
    (hk : s.kind = .undecided) (hn : s.new = none) (hc : s.newC = none)
    (hsup : (s.step o f op x false).res ≠ .unsupported) :
    (s.step o f op x false).res = .usageError ∧
    (s.step o f op x false).st.new = none ∧ (s.step o f op x false).st.newC = none ∧
    (s.step o f op x false).di = 0 := by
  have hg : s.grows o op x = true := by cases op <;> simp [Leaf.grows, hn, hc]
  obtain ⟨hr, hst, hdi⟩ := Leaf.step_blocked (.inl hk) hg hsup
  exact ⟨hr, by rw [hst]; exact hn, by rw [hst]; exact hc, hdi⟩

/-- and every later extension of a recorded value goes through the same check -/
theorem unequal_copy_rejected_later (o : Ops V) (f : Flags) (s : Leaf V) (op : Op) (x : V)
    (hr : (s.step o f op x false).res = .usageError) :
    (s.step o f op x false).st.new = s.new ∧ (s.step o f op x false).st.newC = s.newC := by
  rw [Leaf.step_usageError hr]; exact ⟨rfl, rfl⟩

/-! non-vacuity: mutate after comparing — the recorded value is the one compared -/
example : let o : Ops Int := { eqv := (· == ·), le := (· ≤ ·), same := (· == ·) }
    ((runH o { create := true } ({} : Table Int) (fun _ => 7)
      [.snap 0 none, .op 0 none .eq 0, .mutate 0 99]).lookup 0).map (·.top.new) = some (some 7) := by
  decide

end ISnap
