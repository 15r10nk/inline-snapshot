import ISnap.Lemmas.AssignLemmas
/-
  C10 — user-controlled parts are never rewritten: unmanaged leaves (`Is(..)`, dirty-equals, inner
  `snapshot()`), f-strings and displays containing a star-expression.
-/
namespace ISnap.Assign
open ISnap

/-- no unmanaged node (`unm` / `fstr`, also below a `*`) is altered or created by a run, whatever is
    approved; one can only disappear together with the element that held it.
    `ValOk n` (the observed value contains no `Unmanaged` wrapper) is needed: `canon` of a wrapped
    value is an `unm` node, see the example below. -/
theorem unmanaged_untouched (F : Flags) (e : Expr) (n : Val) (hn : ValOk n) :
    (unmLeaves (run F e n)).Sublist (unmLeaves e) :=
  ul_run F e n hn

/-- a list/tuple display containing a star-expression is frozen -/
theorem star_freezes (F : Flags) (tup : Bool) (es : List Expr) (n : Val)
    (h : es.any isStar = true) (hty : (eval (.seq tup es)).ty = n.ty) :
    assign F (.seq tup es) n =
      { cats := Flags.empty, merged := eval (.seq tup es), expr := .seq tup es } :=
  assign_seq_star hty h

/-- a dict display containing a `**` entry is frozen -/
theorem star_freezes_dict (F : Flags) (es : List (Atom × Expr)) (n : Val)
    (h : es.any (fun kv => isStar kv.2) = true) (hty : (eval (.dict es)).ty = n.ty) :
    assign F (.dict es) n =
      { cats := Flags.empty, merged := eval (.dict es), expr := .dict es } :=
  assign_dict_star hty h

theorem unmanaged_leaf_fixed_point (F : Flags) (t : Nat) (v n : Val) :
    assign F (.unm t v) n = ⟨Flags.empty, v, .unm t v⟩ := assign_unm F t v n

theorem fstr_fixed_point (F : Flags) (t : Nat) (v n : Val) :
    assign F (.fstr t v) n = ⟨Flags.empty, v, .fstr t v⟩ := assign_fstr F t v n

/-- a leaf whose value is an `Unmanaged` wrapper is a fixed point as well -/
theorem unmanaged_value_fixed_point (F : Flags) (t : Nat) (c : Bool) (v n : Val)
    (h : (∃ i w, v = .unmIs i w) ∨ ∃ i, v = .unmAny i) :
    assign F (.leaf t c v) n = ⟨Flags.empty, v, .leaf t c v⟩ := by
  rcases h with ⟨i, w, rfl⟩ | ⟨i, rfl⟩ <;> exact assign_leaf_unm rfl

theorem siblings_no_star {es : List Expr} (hes : ∀ e ∈ es, isUnm e = true ∨ (Managed e ∧ WfExpr e)) :
    es.any isStar = false := by
  rw [List.any_eq_false]
  intro e he
  rcases hes e he with h | h
  · simp [isStar_of_isUnm h]
  · simp [isStar_of_ge (ge_of h.1 h.2)]

/-- a display whose elements are unmanaged nodes and managed expressions (no stars), `fix` approved:
    the result has one element per new value; every element of the result is either one of the old
    unmanaged nodes or evaluates to the new value at its position, and there the value returned by the
    comparison equals the new value as well -/
theorem managed_siblings_fixed (F : Flags) (hF : F.fix = true) (es : List Expr) (ns : List Val)
    (hes : ∀ e ∈ es, isUnm e = true ∨ (Managed e ∧ WfExpr e))
    (hns : ∀ n ∈ ns, ValOk n ∧ WfVal n) :
    let r := assignSeq F (script (eval.evalL es) ns) es ns
    r.2.2.length = ns.length ∧ r.2.1.length = ns.length ∧
    ∀ j (h1 : j < r.2.2.length) (h2 : j < r.2.1.length) (h3 : j < ns.length),
      (isUnm r.2.2[j] = true ∧ r.2.2[j] ∈ es) ∨
      (pyEq (eval r.2.2[j]) ns[j] = true ∧ pyEq r.2.1[j] ns[j] = true) := by
  have hs := siblings_no_star hes
  have hg := fun n h => gv_of (hns n h).1 (hns n h).2
  exact (seq_siblings hF ((walk_script hs ns).imp_mem
    (fun e he n hn _ => ⟨(hes e he).imp (⟨·, he⟩) (fun h => ge_of h.1 h.2), hg n hn⟩) (fun n hn _ => hg n hn)
    (fun _ _ => id))).spec

/-- the same at the level of the display -/
theorem managed_siblings_fixed_display (F : Flags) (hF : F.fix = true) (tup : Bool) (es : List Expr)
    (n : Val) (hty : (eval (.seq tup es)).ty = n.ty)
    (hes : ∀ e ∈ es, isUnm e = true ∨ (Managed e ∧ WfExpr e)) (hn : ValOk n) (hwn : WfVal n) :
    ∃ L, run F (.seq tup es) n = .seq tup L ∧ L.length = (listOf n).length ∧
      ∀ j (h1 : j < L.length) (h3 : j < (listOf n).length),
        (isUnm L[j] = true ∧ L[j] ∈ es) ∨ pyEq (eval L[j]) (listOf n)[j] = true := by
  have hs := siblings_no_star hes
  have hg := gv_listOf (gv_of hn hwn)
  have hns : ∀ x ∈ listOf n, ValOk x ∧ WfVal x := fun x hx => gv_iff.1 (hg x hx)
  obtain ⟨l1, l2, h⟩ := managed_siblings_fixed F hF es (listOf n) hes hns
  refine ⟨_, by rw [run, assign_seq_of hty hs], l1, fun j h1 h3 => ?_⟩
  exact (h j h1 (by omega) h3).imp id (fun h => h.1)

/-! ### non-vacuity -/

section examples
open Ex

/-- `[Is(x), 1, *xs, f"…"]` has two unmanaged nodes and a star-expression -/
example : (unmLeaves e2).length = 2 := by decide
example : (match e2 with | .seq _ es => es.any isStar | _ => false) = true := by decide
/-- frozen: same type, any flags -/
example : assign Flags.all e2 (.list [.atom (.int 5)]) =
    ⟨Flags.empty, eval e2, e2⟩ := star_freezes _ _ _ _ (by decide) (by decide)
/-- `[Is(x), 1]` against `[3, 2]`: the `Is(x)` stays, the managed sibling is fixed -/
example : run fixOnly e3 (.list [.atom (.int 3), .atom (.int 2)])
    = .seq false [.unm 7 (.unmIs 0 (.atom (.int 3))), .leaf 0 true (.atom (.int 2))] := by
  rw [run, e3, assign_seq_of (by decide) (by decide)]
  generalize hs : script _ _ = sc
  obtain rfl : sc = [.m, .x] := hs.symm.trans (by decide)
  rw [listOf, assignSeq_m, assignSeq_x, assignSeq_nil, assign_unm, assign_leaf (gv_atom _)]
  rfl
/-- `ValOk n` is needed in `unmanaged_untouched`: an observed value that is itself an `Unmanaged`
    wrapper would be written as an unmanaged node -/
example : unmLeaves (run fixOnly (.leaf 0 false (.atom (.int 1))) (.unmIs 0 (.atom (.int 2))))
    = [.unm 0 (.unmIs 0 (.atom (.int 2)))] := by
  rw [run, assign_leaf (by decide)]
  simp [leafOut, fixOnly, pyEq, canon]

end examples

end ISnap.Assign
