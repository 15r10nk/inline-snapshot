import ISnap.Lemmas.AssignLemmas
import ISnap.Lemmas.CallLemmas
/-
  C11 (third part) — constructor calls written with keyword arguments (`K(a=…, c=…)` for dataclasses,
  attrs classes, pydantic models, …): keywords are matched by name, a matched value is handed to the
  adapter of its own value (`Assign.assign`, any nesting depth), equal keywords are left untouched,
  a keyword whose field holds its default is deleted, non-default fields without keyword are inserted.

  Model: `ISnap.CallAssign` (`assignCall F kw fields`), on top of `ISnap.Assign`.
  Hypotheses used (always stated explicitly, only where needed):
    * keyword names pairwise distinct      `(kw.map (·.1)).Nodup`
    * field names pairwise distinct        `(fields.map (·.1)).Nodup`
    * keyword expressions                  `Managed e`, `WfExpr e`
    * field values                         `ValOk v`, `WfVal v`

  `unmLeavesKw l` (`ISnap.Lemmas.CallLemmas`): all unmanaged leaves of the keyword values, in source order.
-/
namespace ISnap.CallAssign
open ISnap ISnap.Assign List

theorem call_kw_nofix (F : Flags) (kw : List (Nat × Expr)) (fields : List Field)
    (hF : F.fix = false) : (assignCall F kw fields).kw = keptKw F kw fields := by
  simp only [assignCall, oldKeywords_eq, hF, Bool.false_eq_true, ↓reduceIte, filterMap_map]
  rfl

theorem call_kw_fix (F : Flags) (kw : List (Nat × Expr)) (fields : List Field)
    (hF : F.fix = true) : (assignCall F kw fields).kw =
      weave (kw.map (oldOne F fields)) (inserts (kw.map (·.1)) fields 0 []) 0 := by
  simp only [assignCall, oldKeywords_eq, hF, ↓reduceIte]

/-- as a multiset only.  Of the order `Weave.weaveG_flatMap` says this much: a `flatMap` that yields `[]` on every
    inserted keyword gives on the result what it gives on the kept keywords in their old order -/
theorem call_kw_perm (F : Flags) (kw : List (Nat × Expr)) (fields : List Field)
    (hF : F.fix = true) :
    (assignCall F kw fields).kw.Perm (keptKw F kw fields ++ newKw kw fields) := by
  have := Weave.weaveG_perm insG (inserts (kw.map (·.1)) fields 0 []) (kw.map (oldOne F fields)) 0
  rwa [← weave_eq, ← call_kw_fix F kw fields hF, Weave.fromPos_eq_all insG fun _ _ => Nat.zero_le _,
    inserts_newKw, filterMap_map] at this

theorem mem_call_iff (F : Flags) (kw : List (Nat × Expr)) (fields : List Field) (q : Nat × Expr) :
    q ∈ (assignCall F kw fields).kw ↔
      (∃ p ∈ kw, oldOne F fields p = some q) ∨ (F.fix = true ∧ q ∈ newKw kw fields) := by
  rw [← mem_filterMap]
  cases hF : F.fix with
  | false =>
    rw [call_kw_nofix F kw fields hF]
    exact ⟨.inl, fun h => h.elim id fun h => absurd h.1 Bool.false_ne_true⟩
  | true =>
    rw [(call_kw_perm F kw fields hF).mem_iff, mem_append]
    exact or_congr_right ⟨fun h => ⟨rfl, h⟩, fun h => h.2⟩

/-- a keyword whose field is present and not default is handled by the adapter of its own value —
    whatever else happens in the call (other keywords fixed, deleted, inserted) and whatever is
    approved.  (Distinct names are not needed: the value is looked up by the keyword's own name.) -/
theorem call_matched_by_key (F : Flags) (kw : List (Nat × Expr)) (fields : List Field)
    (name : Nat) (e : Expr) (v : Val) (hmem : (name, e) ∈ kw)
    (hl : lookupF name fields = some (v, false)) :
    (name, (assign F e v).expr) ∈ (assignCall F kw fields).kw :=
  (mem_call_iff ..).2 (.inl ⟨(name, e), hmem, oldOne_matched hl⟩)

/-- conversely every keyword of the result comes from an old keyword of the same name — rewritten by
    the adapter of its value if the field is a non-default one, literally kept otherwise — or is the
    canonical spelling of a new non-default field -/
theorem call_kw_origin (F : Flags) (kw : List (Nat × Expr)) (fields : List Field)
    (name : Nat) (e' : Expr) (h : (name, e') ∈ (assignCall F kw fields).kw) :
    (∃ e v, (name, e) ∈ kw ∧ lookupF name fields = some (v, false) ∧ e' = (assign F e v).expr) ∨
    ((name, e') ∈ kw ∧ ∀ v, lookupF name fields ≠ some (v, false)) ∨
    (∃ v, F.fix = true ∧ e' = canon v ∧ (name, v, false) ∈ fields ∧ name ∉ kw.map (·.1)) := by
  rcases (mem_call_iff ..).1 h with ⟨p, hp, ho⟩ | ⟨hF, h⟩
  · rcases oldOne_eq_some.1 ho with ⟨v, hl, hq⟩ | ⟨rfl, hl⟩
    · cases hq; exact .inl ⟨p.2, v, hp, hl, rfl⟩
    · refine .inr (.inl ⟨hp, fun w hw => ?_⟩)
      rcases hl with ⟨v, hl, _⟩ | ⟨hl, _⟩ <;> rw [hw] at hl <;> cases hl
  · obtain ⟨v, h1, h2, h3⟩ := mem_newKw.1 h
    exact .inr (.inr ⟨v, hF, h1, h2, h3⟩)

theorem call_cats (F : Flags) (kw : List (Nat × Expr)) (fields : List Field) :
    (assignCall F kw fields).cats =
      ((kw.map (oldOneCats F fields)).foldr unionCats Flags.empty).union
        (if (inserts (kw.map (·.1)) fields 0 []).any (fun p => !p.2.isEmpty)
          then Flags.single .fix else Flags.empty) := by
  simp only [assignCall, oldKeywords_eq]

theorem call_has (F : Flags) (kw : List (Nat × Expr)) (fields : List Field) (c : Cat) :
    (assignCall F kw fields).cats.has c =
      (kw.any (fun p => (oldOneCats F fields p).has c) ||
        ((Flags.single .fix).has c && !(newKw kw fields).isEmpty)) := by
  rw [call_cats, Flags.has_union, foldr_cats, any_map, Weave.any_group_nonempty, inserts_flat, newKw]
  cases (newFields (kw.map (·.1)) fields) <;> simp <;> rfl

theorem oldOneCats_indep (F : Flags) (fields : List Field) :
    oldOneCats F fields = oldOneCats Flags.empty fields := by
  funext p
  rcases hl : lookupF p.1 fields with _ | ⟨v, _ | _⟩
  · rw [oldOneCats_none hl, oldOneCats_none hl]
  · rw [oldOneCats_matched hl, oldOneCats_matched hl, (indep_gen F Flags.empty _ _).1]
  · rw [oldOneCats_default hl, oldOneCats_default hl]

/-- what is reported does not depend on what is approved -/
theorem call_cats_flags_indep (F : Flags) (kw : List (Nat × Expr)) (fields : List Field) :
    (assignCall F kw fields).cats = (assignCall Flags.empty kw fields).cats := by
  rw [call_cats, call_cats, oldOneCats_indep]

/-- … nor do the merged values -/
theorem call_merged_flags_indep (F : Flags) (kw : List (Nat × Expr)) (fields : List Field) :
    (assignCall F kw fields).merged = (assignCall Flags.empty kw fields).merged := by
  simp only [assignCall]
  apply map_congr_left
  intro f _
  split
  · rw [(indep_gen F Flags.empty _ _).2]
  · rfl

theorem union_fix (a b : Flags) : (a.union b).fix = (a.fix || b.fix) := rfl
theorem union_update (a b : Flags) : (a.union b).update = (a.update || b.update) := rfl

theorem call_no_create_trim (F : Flags) (kw : List (Nat × Expr)) (fields : List Field) :
    (assignCall F kw fields).cats.create = false ∧ (assignCall F kw fields).cats.trim = false := by
  -- as for `Assign.cats_has`: only `fix` and `update` are ever reported
  have h : ∀ c, (Flags.single .fix).has c = false → (Flags.single .update).has c = false →
      (assignCall F kw fields).cats.has c = false := by
    intro c hf hu
    rw [call_has, hf, Bool.false_and, Bool.or_false, any_eq_false]
    intro p _
    rcases hl : lookupF p.1 fields with _ | ⟨v, _ | _⟩
    · rw [oldOneCats_none hl, hf]; exact Bool.false_ne_true
    · rw [oldOneCats_matched hl, cats_has F hf hu]; exact Bool.false_ne_true
    · rw [oldOneCats_default hl]; split <;> simp [hf, hu]
  exact ⟨h .create rfl rfl, h .trim rfl rfl⟩

theorem oldOne_disjoint {F : Flags} {fields : List Field} {p : Nat × Expr}
    (h1 : ((oldOneCats F fields p).fix && F.fix) = false)
    (h2 : ((oldOneCats F fields p).update && F.update) = false) : oldOne F fields p = some p := by
  rcases hl : lookupF p.1 fields with _ | ⟨v, _ | _⟩
  · rw [oldOneCats_none hl] at h1
    exact oldOne_eq_some.2 (.inr ⟨rfl, .inr ⟨hl, h1⟩⟩)
  · rw [oldOneCats_matched hl] at h1 h2
    rw [oldOne_matched hl, run_disjoint F p.2 v h1 h2]
  · rw [oldOneCats_default hl] at h1 h2
    refine oldOne_eq_some.2 (.inr ⟨rfl, .inl ⟨v, hl, ?_⟩⟩)
    cases hpe : pyEq (eval p.2) v <;> rw [hpe] at h1 h2
    · exact h1
    · exact h2

theorem call_kw_of_no_new (F : Flags) (kw : List (Nat × Expr)) (fields : List Field)
    (h : F.fix = true → newKw kw fields = []) : (assignCall F kw fields).kw = keptKw F kw fields := by
  cases hF : F.fix with
  | false => exact call_kw_nofix F kw fields hF
  | true =>
    rw [call_kw_fix F kw fields hF, weave_eq, Weave.weaveG_nil, filterMap_map]; rfl
    intro i q hq
    have := mem_woven hq
    rw [h hF] at this
    cases this

/-- a run that approves none of the reported categories leaves the call alone (the twin of
    `Assign.run_disjoint`) -/
theorem call_disjoint (F : Flags) (kw : List (Nat × Expr)) (fields : List Field)
    (h1 : ((assignCall F kw fields).cats.fix && F.fix) = false)
    (h2 : ((assignCall F kw fields).cats.update && F.update) = false) :
    (assignCall F kw fields).kw = kw := by
  rw [show (assignCall F kw fields).cats.fix = (assignCall F kw fields).cats.has .fix from rfl, call_has,
    Bool.and_or_distrib_right, Bool.or_eq_false_iff, and_any_distrib_right, any_eq_false] at h1
  rw [show (assignCall F kw fields).cats.update = (assignCall F kw fields).cats.has .update from rfl, call_has,
    Bool.and_or_distrib_right, Bool.or_eq_false_iff, and_any_distrib_right, any_eq_false] at h2
  -- nothing is inserted, and every old keyword stays as it is
  rw [call_kw_of_no_new F kw fields fun hF => by simpa [hF, Flags.has, Flags.single] using h1.2]
  exact Weave.filterMap_fixed fun p hp =>
    oldOne_disjoint (Bool.eq_false_iff.2 (h1.1 p hp)) (Bool.eq_false_iff.2 (h2.1 p hp))

theorem call_nothing_approved (kw : List (Nat × Expr)) (fields : List Field) :
    (assignCall Flags.empty kw fields).kw = kw :=
  call_disjoint _ kw fields (Bool.and_false _) (Bool.and_false _)

/-- a matched keyword whose value is unchanged stays literally the same (`update` not approved) —
    even when other keywords of the call are fixed, deleted or inserted -/
theorem call_kept_keyword_text (F : Flags) (kw : List (Nat × Expr)) (fields : List Field)
    (name : Nat) (e : Expr) (v : Val) (hu : F.update = false) (hmem : (name, e) ∈ kw)
    (hl : lookupF name fields = some (v, false)) (heq : pyEq (eval e) v = true)
    (he : Managed e) (hwe : WfExpr e) (hv : ValOk v) (hwv : WfVal v) :
    (name, e) ∈ (assignCall F kw fields).kw := by
  have h := call_matched_by_key F kw fields name e v hmem hl
  rwa [equal_kept_gen F hu e (ge_of he hwe) v (gv_of hv hwv) heq] at h

theorem call_names_nodup (F : Flags) (kw : List (Nat × Expr)) (fields : List Field)
    (hkn : (kw.map (·.1)).Nodup) (hfn : (fields.map (·.1)).Nodup) :
    ((assignCall F kw fields).kw.map (·.1)).Nodup := by
  have hk := (keptKw_names_sublist F kw fields).nodup hkn
  cases hF : F.fix with
  | false => rw [call_kw_nofix F kw fields hF]; exact hk
  | true =>
    refine ((call_kw_perm F kw fields hF).map (·.1)).nodup_iff.2 ?_
    rw [map_append, nodup_append]
    refine ⟨hk, (newKw_names_sublist kw fields).nodup hfn, ?_⟩
    rintro a ha _ hb rfl
    obtain ⟨q, hq, rfl⟩ := mem_map.1 hb
    obtain ⟨_, _, _, h3⟩ := mem_newKw.1 hq
    exact h3 ((keptKw_names_sublist F kw fields).subset ha)

theorem call_kw_noins (F : Flags) (kw : List (Nat × Expr)) (fields : List Field)
    (hf : ∀ f ∈ fields, f.2.2 = false → f.1 ∈ kw.map (·.1)) :
    (assignCall F kw fields).kw = keptKw F kw fields :=
  call_kw_of_no_new F kw fields fun _ => newKw_eq_nil hf

/-- every keyword has a non-default field of equal value and every non-default field has a keyword:
    no `fix` is reported -/
theorem call_equal_no_fix (F : Flags) (kw : List (Nat × Expr)) (fields : List Field)
    (hk : ∀ name e, (name, e) ∈ kw → ∃ v, lookupF name fields = some (v, false) ∧
      pyEq (eval e) v = true ∧ Managed e ∧ WfExpr e ∧ ValOk v ∧ WfVal v)
    (hf : ∀ f ∈ fields, f.2.2 = false → f.1 ∈ kw.map (·.1)) :
    (assignCall F kw fields).cats.fix = false := by
  refine (call_has F kw fields .fix).trans ?_
  rw [newKw_eq_nil hf, any_eq_false.2, Bool.false_or]; rfl
  intro p hp
  obtain ⟨v, hl, heq, he, hwe, hv, hwv⟩ := hk p.1 p.2 hp
  rw [oldOneCats_matched hl]
  simp [Flags.has, nofix_of_eq F p.2 (ge_of he hwe) v (gv_of hv hwv) heq]

/-- … and the call is left untouched at every depth, whatever else is approved besides `update` -/
theorem call_equal_kept (F : Flags) (kw : List (Nat × Expr)) (fields : List Field)
    (hu : F.update = false)
    (hk : ∀ name e, (name, e) ∈ kw → ∃ v, lookupF name fields = some (v, false) ∧
      pyEq (eval e) v = true ∧ Managed e ∧ WfExpr e ∧ ValOk v ∧ WfVal v)
    (hf : ∀ f ∈ fields, f.2.2 = false → f.1 ∈ kw.map (·.1)) :
    (assignCall F kw fields).kw = kw :=
  call_disjoint F kw fields (by rw [call_equal_no_fix F kw fields hk hf]; rfl) (by rw [hu]; exact Bool.and_false _)

/-- no unmanaged node (`Is(..)`, dirty-equals, inner `snapshot()`, f-string) inside a keyword value is
    altered, created or reordered by the comparison of a call, whatever is approved; it can only
    disappear together with the element or keyword that held it.  `ValOk` of the field values is needed
    exactly as in `Assign.unmanaged_untouched`. -/
theorem call_unmanaged_untouched (F : Flags) (kw : List (Nat × Expr)) (fields : List Field)
    (hfv : ∀ f ∈ fields, ValOk f.2.1) :
    (unmLeavesKw (assignCall F kw fields).kw).Sublist (unmLeavesKw kw) := by
  have hk : (unmLeavesKw (keptKw F kw fields)).Sublist (unmLeavesKw kw) := by
    refine Weave.sublist_flatMap_filterMap _ _ kw fun p _ q hq => ?_
    rcases oldOne_eq_some.1 hq with ⟨v, hl, rfl⟩ | ⟨rfl, _⟩
    · exact ul_run F p.2 v (hfv _ (lookupF_mem hl))
    · exact Sublist.refl _
  cases hF : F.fix with
  | false => rw [call_kw_nofix F kw fields hF]; exact hk
  | true =>
    rw [call_kw_fix F kw fields hF, weave_eq, unmLeavesKw, Weave.weaveG_flatMap, filterMap_map]
    · exact hk
    · -- the inserted keywords are canonical spellings of unmanaged-free values
      intro i q hq
      obtain ⟨v, h1, hm, _⟩ := mem_newKw.1 (mem_woven hq)
      rw [h1]; exact ul_canon v (hfv _ hm)

theorem call_fix_repairs_exists (F : Flags) (kw : List (Nat × Expr)) (fields : List Field)
    (hF : F.fix = true) (hfn : (fields.map (·.1)).Nodup)
    (hkw : ∀ p ∈ kw, Managed p.2 ∧ WfExpr p.2) (hfv : ∀ f ∈ fields, ValOk f.2.1 ∧ WfVal f.2.1)
    (name : Nat) (v : Val) (hmem : (name, v, false) ∈ fields) :
    ∃ e', (name, e') ∈ (assignCall F kw fields).kw ∧ pyEq (eval e') v = true := by
  have hv := gv_of (hfv _ hmem).1 (hfv _ hmem).2
  by_cases hn : name ∈ kw.map (·.1)
  · obtain ⟨⟨n, e⟩, hp, rfl⟩ := mem_map.1 hn
    exact ⟨_, call_matched_by_key F kw fields n e v hp (lookupF_of_mem hfn hmem),
      fix_repairs_gen F hF e (ge_of (hkw _ hp).1 (hkw _ hp).2) v hv⟩
  · exact ⟨canon v, (mem_call_iff ..).2 (.inr ⟨hF, mem_newKw.2 ⟨v, rfl, hmem, hn⟩⟩),
      by rw [eval_canon_any]; exact pyEq_refl v hv⟩

/-- `fix` approved: every non-default field has exactly one keyword in the result, and that keyword
    evaluates to the field's value.
    * distinct field names are needed for the value (a keyword is compared with the first field of its name);
    * distinct keyword names are needed for uniqueness only (see `call_fix_repairs_exists`). -/
theorem call_fix_repairs (F : Flags) (kw : List (Nat × Expr)) (fields : List Field)
    (hF : F.fix = true) (hkn : (kw.map (·.1)).Nodup) (hfn : (fields.map (·.1)).Nodup)
    (hkw : ∀ p ∈ kw, Managed p.2 ∧ WfExpr p.2) (hfv : ∀ f ∈ fields, ValOk f.2.1 ∧ WfVal f.2.1)
    (name : Nat) (v : Val) (hmem : (name, v, false) ∈ fields) :
    ∃ e', (name, e') ∈ (assignCall F kw fields).kw ∧ pyEq (eval e') v = true ∧
      ∀ e'', (name, e'') ∈ (assignCall F kw fields).kw → e'' = e' := by
  obtain ⟨e', h1, h2⟩ := call_fix_repairs_exists F kw fields hF hfn hkw hfv name v hmem
  exact ⟨e', h1, h2, fun e'' h => pair_unique (call_names_nodup F kw fields hkn hfn) h h1⟩

/-- only `fix` approved: a keyword of the result that names no non-default field is an old keyword of
    a default-valued field whose value did not change, with its old text (its deletion is an `update`) -/
theorem call_fix_stale_unchanged (F : Flags) (kw : List (Nat × Expr)) (fields : List Field)
    (hF : F.fix = true) (name : Nat) (e' : Expr)
    (h : (name, e') ∈ (assignCall F kw fields).kw) :
    (∃ v, (name, v, false) ∈ fields) ∨
    (F.update = false ∧ (name, e') ∈ kw ∧
      ∃ v, lookupF name fields = some (v, true) ∧ pyEq (eval e') v = true) := by
  rcases (mem_call_iff ..).1 h with ⟨p, hp, ho⟩ | ⟨_, h⟩
  · rcases oldOne_eq_some.1 ho with ⟨v, hl, hq⟩ | ⟨rfl, ⟨v, hl, hh⟩ | ⟨_, hh⟩⟩
    · cases hq; exact .inl ⟨v, lookupF_mem hl⟩
    · cases hc : pyEq (eval e') v with
      | false => rw [hc] at hh; exact absurd (hF.symm.trans hh) (by simp)
      | true => rw [hc] at hh; exact .inr ⟨hh, hp, v, hl, hc⟩
    · exact absurd (hF.symm.trans hh) (by simp)
  · obtain ⟨v, _, hm, _⟩ := mem_newKw.1 h
    exact .inl ⟨v, hm⟩

/-- `fix` and `update` approved: no keyword of the result names a field that is default or absent
    (deleting an unchanged default-valued keyword is an `update`, see the example below) -/
theorem call_fix_update_no_stale (F : Flags) (kw : List (Nat × Expr)) (fields : List Field)
    (hF : F.fix = true) (hU : F.update = true) (name : Nat) (e' : Expr)
    (h : (name, e') ∈ (assignCall F kw fields).kw) : ∃ v, (name, v, false) ∈ fields :=
  (call_fix_stale_unchanged F kw fields hF name e' h).resolve_right fun h =>
    absurd (hU.symm.trans h.1) (by simp)

/-! ### non-vacuity -/

section examples
open Ex

/-- `K(b=1, c=[5], d=7, z=0)` (names as numbers 1, 2, 3, 9) -/
def kwA : List (Nat × Expr) :=
  [ (1, .leaf 1 true (.atom (.int 1))), (2, .seq false [.leaf 2 true (.atom (.int 5))]),
    (3, .leaf 3 true (.atom (.int 7))), (9, .leaf 4 true (.atom (.int 0))) ]
/-- the new object: `a=4` (new), `b=1` (equal), `c=[5, 6]` (changed), `d=7` (now the default),
    `e=8` (new), no field `z` any more -/
def fieldsA : List Field :=
  [ (0, .atom (.int 4), false), (1, .atom (.int 1), false),
    (2, .list [.atom (.int 5), .atom (.int 6)], false), (3, .atom (.int 7), true),
    (4, .atom (.int 8), false) ]

example : (kwA.map (·.1)).Nodup ∧ (fieldsA.map (·.1)).Nodup := by decide
example : (∀ p ∈ kwA, Managed p.2 ∧ WfExpr p.2) ∧ (∀ f ∈ fieldsA, ValOk f.2.1 ∧ WfVal f.2.1) := by
  decide

/-- keyword `c` is handled by the list adapter of its own value, whatever is approved -/
example (F : Flags) : (2, (assign F (.seq false [.leaf 2 true (.atom (.int 5))])
    (.list [.atom (.int 5), .atom (.int 6)])).expr) ∈ (assignCall F kwA fieldsA).kw :=
  call_matched_by_key F kwA fieldsA 2 _ _ (by simp [kwA]) rfl

/-- keyword `b` keeps its text although `a`, `e` are inserted, `c` is fixed and `z` is deleted -/
example : (1, .leaf 1 true (.atom (.int 1))) ∈ (assignCall fixOnly kwA fieldsA).kw :=
  call_kept_keyword_text fixOnly kwA fieldsA 1 _ (.atom (.int 1)) rfl (by simp [kwA]) rfl
    (by decide) (by decide) (by decide) (by decide) (by decide)

/-- `fix`: the field `e` gets exactly one keyword, and it evaluates to 8 -/
example : ∃ e', (4, e') ∈ (assignCall fixOnly kwA fieldsA).kw ∧
    pyEq (eval e') (.atom (.int 8)) = true ∧
    ∀ e'', (4, e'') ∈ (assignCall fixOnly kwA fieldsA).kw → e'' = e' :=
  call_fix_repairs fixOnly kwA fieldsA rfl (by decide) (by decide) (by decide) (by decide) 4 _
    (by simp [fieldsA])

example : (assignCall Flags.all kwA fieldsA).kw = kwA → False := by
  intro h
  have := call_fix_update_no_stale Flags.all kwA fieldsA rfl rfl 9 (.leaf 4 true (.atom (.int 0)))
    (by rw [h]; simp [kwA])
  revert this; simp [fieldsA]

/- Concrete calls are computed by unfolding the model down to the comparisons of the single keyword values
   (`assign` on a leaf is `leafOut`; `assign` itself, defined by well-founded recursion, does not reduce)
   and evaluating the rest. -/

/-- a call computed completely (leaf values): `K(b=1, d=7, z=0)` against `a=4, b=2, d=7 (default)`:
    `a` is inserted in front of `b`, `b` is fixed, `z` deleted (fix); `d` stays without `update` … -/
def kwB : List (Nat × Expr) :=
  [ (1, .leaf 1 true (.atom (.int 1))), (3, .leaf 3 true (.atom (.int 7))),
    (9, .leaf 4 true (.atom (.int 0))) ]
def fieldsB : List Field :=
  [ (0, .atom (.int 4), false), (1, .atom (.int 2), false), (3, .atom (.int 7), true) ]

example : (assignCall fixOnly kwB fieldsB).kw =
    [ (0, .leaf 0 true (.atom (.int 4))), (1, .leaf 0 true (.atom (.int 2))),
      (3, .leaf 3 true (.atom (.int 7))) ] := by
  simp only [assignCall, oldKeywords, kwB, fieldsB, lookupF, assign_leaf (gv_atom _), reduceCtorEq,
    ↓reduceIte, Nat.reduceEqDiff]
  rfl
/-- … and goes with it: `update` is needed in `call_fix_update_no_stale` -/
example : (assignCall Flags.all kwB fieldsB).kw =
    [ (0, .leaf 0 true (.atom (.int 4))), (1, .leaf 0 true (.atom (.int 2))) ] := by
  simp only [assignCall, oldKeywords, kwB, fieldsB, lookupF, assign_leaf (gv_atom _), reduceCtorEq,
    ↓reduceIte, Nat.reduceEqDiff]
  rfl
example : (assignCall Flags.all kwB fieldsB).cats = ⟨false, true, false, true⟩ := by
  simp only [assignCall, oldKeywords, kwB, fieldsB, lookupF, assign_leaf (gv_atom _), reduceCtorEq,
    ↓reduceIte, Nat.reduceEqDiff]
  rfl

/-- an equal call: `K(b=True, c=[5])` against `b=1, c=[5]`, `d` default — untouched with `fix` approved -/
example : (assignCall fixOnly
      [(1, .leaf 1 false (.atom (.bool true))), (2, .seq false [.leaf 2 true (.atom (.int 5))])]
      [(1, .atom (.int 1), false), (2, .list [.atom (.int 5)], false), (3, .atom (.int 7), true)]).kw
    = [(1, .leaf 1 false (.atom (.bool true))), (2, .seq false [.leaf 2 true (.atom (.int 5))])] := by
  apply call_equal_kept _ _ _ rfl
  · intro name e h
    simp only [mem_cons, Prod.mk.injEq, not_mem_nil, or_false] at h
    rcases h with ⟨rfl, rfl⟩ | ⟨rfl, rfl⟩
    · exact ⟨.atom (.int 1), rfl, by decide⟩
    · exact ⟨.list [.atom (.int 5)], rfl, by decide⟩
  · decide

/-- unmanaged parts: `K(b=Is(x), c=[f"…", 1])` — both nodes survive any run -/
example (F : Flags) (fields : List Field) (h : ∀ f ∈ fields, ValOk f.2.1) :
    (unmLeavesKw (assignCall F
      [(1, .unm 7 (.unmIs 0 (.atom (.int 3)))), (2, .seq false [.fstr 9 (.atom (.str [120]))])]
      fields).kw).Sublist [.unm 7 (.unmIs 0 (.atom (.int 3))), .fstr 9 (.atom (.str [120]))] :=
  call_unmanaged_untouched F _ fields h

/-- distinct field names are needed in `call_fix_repairs`: a keyword is compared with the first field
    of its name -/
example : (assignCall fixOnly [(1, .leaf 1 true (.atom (.int 1)))]
      [(1, .atom (.int 1), false), (1, .atom (.int 2), false)]).kw
    = [(1, .leaf 1 true (.atom (.int 1)))] := by
  simp only [assignCall, oldKeywords, lookupF, assign_leaf (gv_atom _), ↓reduceIte]
  rfl

end examples

end ISnap.CallAssign
