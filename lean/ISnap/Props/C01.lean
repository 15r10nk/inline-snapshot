import ISnap.Props.C14
import ISnap.Props.C05
/-
  C01 — a created snapshot reads back as the value that was observed (value level).

  For an empty `snapshot()` and approved `create`, the value written makes the same comparison
  hold: equal for `==`, a satisfied bound for `<=` / `>=` (all observations), a container holding
  every tested value for `in`, a mapping with the requested key for `[key]`.
  The step from the value to its source text (`code_repr`, string literals) is the subject of
  Props/C12.lean and Props/C16.lean; the formatter enters as the validated assumption AstPreserving
  (harness/registry.py).
-/
namespace ISnap
variable {V : Type}

/-- `x == snapshot()` + create: the written value is `x` itself, and the comparison reads True -/
theorem create_eq (o : Ops V) (f : Flags) (x : V) :
    let r := ({ old := none } : Leaf V).step o f .eq x true
    r.st.final o { create := true } = .one x ∧ r.res = .val (o.eqv x x) ∧ r.dm = 1 := by
  rw [Leaf.step_missing (.inl rfl) rfl]
  exact ⟨rfl, rfl, rfl⟩

/-- `x <= snapshot()` / `x >= snapshot()` + create over any observation sequence: the written
    bound is satisfied by every observation -/
theorem create_bound (o : Ops V) (tot : TotalLe o) (f : Flags) (op : Op) (hop : isMM op)
    (xs : List V) (hne : xs ≠ []) :
    ∃ n, (({ old := none } : Leaf V).runOps o f op xs).1.final o { create := true } = .one n ∧
      ∀ x ∈ xs, plainOp o (.leaf n true) op x = .val true := by
  obtain ⟨n, h1, _, h3⟩ := aggregate_extreme o tot f op hop xs hne
  exact ⟨n, h1, fun x hx => by rw [plain_bound o op n true x hop, h3 x hx]⟩

/-- `x in snapshot()` + create: every tested value is a member of the written list -/
theorem create_in (o : Ops V) (eqv : EqvLaws o) (f : Flags) (xs : List V) (hne : xs ≠ []) :
    ∃ l, (({ old := none } : Leaf V).runOps o f .isin xs).1.final o { create := true } = .many l ∧
      ∀ x ∈ xs, memBy o.eqv x l = true := by
  obtain ⟨l, h1, h2⟩ := aggregate_union o eqv f xs hne
  exact ⟨l, h1, fun x hx => (h2 x).trans ((memBy_iff _ _ _).2 ⟨x, hx, eqv.refl x⟩)⟩

/-- `x == snapshot()[k]` + create: a mapping with the requested key, holding the compared value -/
theorem create_getitem (o : Ops V) (f : Flags) (k x : V) (hk : o.eqv k k = true) :
    let r := (Site.ofOld (none : Option (OldArg V))).step o f (some k) .eq x true
    r.st.final o { create := true } = .entries [(k, .one x)] ∧ r.dm = 2 := by
  simp [Site.step, Site.getItem, Site.ofOld, lookupChild, Leaf.step_missing, Leaf.grows, Leaf.after, eqNext,
    setChild, Site.final, Leaf.newVal, hk]

/-- without `create` approved nothing is written into an empty call -/
theorem create_needs_approval (o : Ops V) (s : Leaf V) (h : s.old = none) (ap : Flags)
    (hap : ap.create = false) : s.final o ap = .noArg := by
  simp [Leaf.final, h, hap]

example : let o : Ops Int := { eqv := (· == ·), le := (· ≤ ·), same := (· == ·) }
    ∃ w, ((({ old := none } : Leaf Int).runOps o {} .ge [3, 9, 4]).1.final o { create := true }) = .one w
      ∧ w = 9 := ⟨9, by rfl, rfl⟩

end ISnap
