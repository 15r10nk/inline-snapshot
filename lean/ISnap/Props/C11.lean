import ISnap.Lemmas.AlignLemmas
/-
  C11 — `_align.py`: `align` / `nw_align` return a valid alignment with the maximal number of
  matches, `add_x` only relabels `d^k i^k` runs as replacements.

  The sequences enter only through their lengths `n m` and an ARBITRARY relation `E i j`
  ("old[i] == new[j]"); nothing (symmetry, transitivity, …) is assumed about `E`.

  The statements are phrased with `Valid` / `ValidX` (the script aligns the first `i` old with the first `j` new
  elements; `ValidX` allows `x`), `matches` (number of `m`) and `score` (`= (cell E i j).1`), defined in
  `Lemmas/AlignLemmas`.
-/
namespace ISnap.Align

theorem matrix_shape (E : Nat → Nat → Bool) (n m : Nat) :
    matrix E n m = (List.range (n+1)).map (fun i => (List.range (m+1)).map (cell E i)) := by
  simp [matrix, rowsRev_spec, rowSpec]

/-- the executable row-by-row matrix is the tabulation of the specification -/
theorem matrix_eq_cell (E : Nat → Nat → Bool) (n m i j : Nat) (hi : i ≤ n) (hj : j ≤ m) :
    getCell (matrix E n m) i j = cell E i j := by
  simp [getCell, matrix_shape, List.getD_eq_getElem?_getD, Nat.lt_succ_of_le hi, Nat.lt_succ_of_le hj]

theorem backM_trace (E) (n m : Nat) : ∀ fuel {i j s} acc, Trace E i j s → i ≤ n → j ≤ m → i + j < fuel →
    backM (matrix E n m) fuel i j acc = s ++ acc := by
  intro fuel
  induction fuel with
  | zero => exact fun _ _ _ _ h => absurd h (Nat.not_lt_zero _)
  | succ fuel ih =>
    intro i j s acc h hi hj hf
    unfold backM
    rw [matrix_eq_cell E n m i j hi hj]
    cases h with
    | nil => simp
    | m _ hc h =>
      simp only [hc, Nat.add_sub_cancel, List.append_assoc, List.singleton_append]
      exact ih (.m :: acc) h (Nat.le_of_succ_le hi) (Nat.le_of_succ_le hj) (by omega)
    | i hc h =>
      simp only [hc, Nat.add_sub_cancel, List.append_assoc, List.singleton_append]
      exact ih (.i :: acc) h hi (Nat.le_of_succ_le hj) (Nat.lt_of_succ_lt_succ hf)
    | d hc h =>
      simp only [hc, Nat.add_sub_cancel, List.append_assoc, List.singleton_append]
      exact ih (.d :: acc) h (Nat.le_of_succ_le hi) hj (by omega)

/-- more fuel than `i + j + 1` changes nothing: the loop ends at the `e` cell, not by exhaustion -/
theorem backM_fuel (E : Nat → Nat → Bool) (n m fuel i j : Nat) (acc : List Dir)
    (hi : i ≤ n) (hj : j ≤ m) (hf : i + j + 1 ≤ fuel) :
    backM (matrix E n m) fuel i j acc = backM (matrix E n m) (i + j + 1) i j acc := by
  obtain ⟨s, hs⟩ := exists_trace E i j
  rw [backM_trace E n m _ acc hs hi hj hf, backM_trace E n m _ acc hs hi hj (Nat.lt_succ_self _)]

/-- in particular `nwAlign` is independent of the fuel bound chosen in the model -/
theorem nwAlign_fuel (E : Nat → Nat → Bool) (n m extra : Nat) :
    backM (matrix E n m) (n + m + 1 + extra) n m [] = nwAlign E n m :=
  backM_fuel E n m _ n m [] (Nat.le_refl _) (Nat.le_refl _) (Nat.le_add_right _ _)

theorem nwAlign_trace (E) (n m : Nat) : Trace E n m (nwAlign E n m) := by
  obtain ⟨s, hs⟩ := exists_trace E n m
  rwa [nwAlign, backM_trace E n m _ [] hs (Nat.le_refl _) (Nat.le_refl _) (Nat.lt_succ_self _),
    List.append_nil]

theorem nwAlign_valid (E : Nat → Nat → Bool) (n m : Nat) : Valid E n m (nwAlign E n m) :=
  (nwAlign_trace E n m).valid.1

theorem nwAlign_matches (E : Nat → Nat → Bool) (n m : Nat) :
    «matches» (nwAlign E n m) = (cell E n m).1 :=
  (nwAlign_trace E n m).valid.2

theorem valid_matches_le_cell (E : Nat → Nat → Bool) (i j : Nat) (s : List Dir)
    (h : Valid E i j s) : «matches» s ≤ (cell E i j).1 := by
  rw [cell_fst]
  induction h with
  | nil => exact Nat.zero_le _
  | m _ hE ih => simpa using Nat.le_trans (Nat.succ_le_succ ih) (score_diag E _ _ hE)
  | i _ ih => simpa [«matches»] using Nat.le_trans ih (score_mono_right E _ _)
  | d _ ih => simpa [«matches»] using Nat.le_trans ih (score_mono_left E _ _)

/-- with `valid_matches_le_cell`: the matrix score is the maximum over the valid alignments -/
theorem cell_attained (E : Nat → Nat → Bool) (i j : Nat) :
    ∃ s, Valid E i j s ∧ «matches» s = (cell E i j).1 :=
  ⟨nwAlign E i j, nwAlign_valid E i j, nwAlign_matches E i j⟩

theorem nwAlign_optimal (E : Nat → Nat → Bool) (n m : Nat) (s : List Dir) (h : Valid E n m s) :
    «matches» s ≤ «matches» (nwAlign E n m) := by
  rw [nwAlign_matches]; exact valid_matches_le_cell E n m s h

/-- the two facts behind `align_optimal`: dropping the first / the last pair of elements lowers the
    optimum by at most one, whatever `E` says about the pair -/
theorem cell_strip_last (E : Nat → Nat → Bool) (i j : Nat) :
    (cell E (i+1) (j+1)).1 ≤ (cell E i j).1 + 1 := by
  induction h : i + j using Nat.strongRecOn generalizing i j with
  | ind n ih =>
    -- whichever neighbour was picked: its bound is the statement one step earlier plus monotonicity
    rcases cell_cases E i j with ⟨-, hc⟩ | ⟨-, hc⟩ | ⟨-, hc⟩ <;> rw [hc]
    · exact Nat.le_refl _
    · cases j with
      | zero => simp
      | succ j => exact Nat.le_trans (ih _ (by omega) i j rfl) (Nat.succ_le_succ (score_mono_right E i j))
    · cases i with
      | zero => simp
      | succ i => exact Nat.le_trans (ih _ (by omega) i j rfl) (Nat.succ_le_succ (score_mono_left E i j))

theorem cell_strip_first (E : Nat → Nat → Bool) (i j : Nat) :
    (cell E (i+1) (j+1)).1 ≤ (cell (fun a b => E (a+1) (b+1)) i j).1 + 1 := by
  induction i generalizing j with
  | zero => simpa [cell_fst] using cell_strip_last E 0 j
  | succ i ihi =>
    induction j with
    | zero => simpa [cell_fst] using cell_strip_last E (i+1) 0
    | succ j ihj =>
      -- the neighbour that was picked is bounded by induction, its image is a lower bound on the right
      rcases cell_cases E (i+1) (j+1) with ⟨hE, hc⟩ | ⟨-, hc⟩ | ⟨-, hc⟩ <;> rw [hc]
      · exact Nat.succ_le_succ (Nat.le_trans (ihi j) (score_diag (fun a b => E (a+1) (b+1)) i j hE))
      · exact Nat.le_trans ihj (Nat.succ_le_succ (score_mono_right _ _ _))
      · exact Nat.le_trans (ihi (j+1)) (Nat.succ_le_succ (score_mono_left _ _ _))

/-- when the pair IS related, stripping it loses exactly one: the exchange argument of the property,
    obtained here from the two bounds plus validity of the re-attached pair -/
theorem cell_strip_last_eq (E : Nat → Nat → Bool) (i j : Nat) (h : E i j = true) :
    (cell E (i+1) (j+1)).1 = (cell E i j).1 + 1 :=
  Nat.le_antisymm (cell_strip_last E i j) (score_diag E i j h)

theorem cell_strip_first_eq (E : Nat → Nat → Bool) (i j : Nat) (h : E 0 0 = true) :
    (cell E (i+1) (j+1)).1 = (cell (fun a b => E (a+1) (b+1)) i j).1 + 1 := by
  apply Nat.le_antisymm (cell_strip_first E i j)
  have hv := (Valid.m .nil h : Valid E 1 1 [.m]).append (nwAlign_valid (fun a b => E (1+a) (1+b)) i j)
  have := valid_matches_le_cell E _ _ _ hv
  simp only [matches_append, nwAlign_matches, matches_cons_m, matches_nil, Nat.add_comm 1] at this
  omega

theorem score_strip_suffix (E) (i j e : Nat) : score E (i+e) (j+e) ≤ score E i j + e := by
  induction e with
  | zero => exact Nat.le_refl _
  | succ e ih => exact Nat.le_trans (cell_strip_last E (i+e) (j+e)) (Nat.succ_le_succ ih)

theorem score_strip_prefix (E : Nat → Nat → Bool) (p i j : Nat) :
    score E (p+i) (p+j) ≤ p + score (fun a b => E (p+a) (p+b)) i j := by
  induction p generalizing E with
  | zero => simp
  | succ p ih =>
    have h1 := ih (fun a b => E (a+1) (b+1))
    have h2 : score E _ _ ≤ score _ _ _ + 1 := cell_strip_first E (p+i) (p+j)
    simp only [Nat.add_right_comm p 1]
    omega

/-- `s` = length of the maximal common prefix; if that is everything the script
    is `m^n`; otherwise `e` = length of the maximal common suffix of the rest, and the script is
    `m^s ++ mid ++ m^e` where `mid` is the Needleman-Wunsch alignment of the middle parts -/
theorem align_prefix_suffix (E : Nat → Nat → Bool) (n m s e : Nat)
    (hs : s = prefixLen E (min n m) 0) (he : e = suffixLen E n m (min (n - s) (m - s)) 0) :
    (s ≤ min n m ∧ (∀ k, k < s → E k k = true) ∧ (s < min n m → E s s = false)) ∧
    ((s = n ∧ s = m) → align E n m = List.replicate n .m) ∧
    (¬ (s = n ∧ s = m) →
      e ≤ min (n - s) (m - s) ∧ (∀ k, k < e → E (n-1-k) (m-1-k) = true) ∧
      (e < min (n - s) (m - s) → E (n-1-e) (m-1-e) = false) ∧
      ∃ mid, align E n m = List.replicate s .m ++ mid ++ List.replicate e .m ∧
        mid = nwAlign (fun i j => E (s + i) (s + j)) (n - s - e) (m - s - e) ∧
        Valid (fun i j => E (s + i) (s + j)) (n - s - e) (m - s - e) mid) := by
  obtain ⟨-, p2, p3, p4⟩ := prefixLen_spec E (min n m) 0
  obtain ⟨-, s2, s3, s4⟩ := suffixLen_spec E n m (min (n - s) (m - s)) 0
  rw [Nat.zero_add] at p2 p4 s2 s4
  subst hs he
  unfold align
  refine ⟨⟨p2, fun k => p3 k (Nat.zero_le k), p4⟩, fun h => by rw [if_pos h, h.1], fun h => ?_⟩
  rw [if_neg h]
  exact ⟨s2, fun k => s3 k (Nat.zero_le k), s4, _, rfl, rfl, nwAlign_valid _ _ _⟩

/-- the same without subtraction, both branches of `align` in one shape: if everything is prefix, the middle
    is `nwAlign _ 0 0 = []` -/
theorem align_shape (E : Nat → Nat → Bool) (n m : Nat) :
    ∃ p n' m' e, n = p + n' + e ∧ m = p + m' + e ∧ (∀ k, k < p → E k k = true) ∧
      (∀ k, k < e → E (p + n' + k) (p + m' + k) = true) ∧
      align E n m = List.replicate p .m ++ nwAlign (fun i j => E (p + i) (p + j)) n' m'
        ++ List.replicate e .m := by
  obtain ⟨p, hpd⟩ : ∃ p, p = prefixLen E (min n m) 0 := ⟨_, rfl⟩
  obtain ⟨e, hed⟩ : ∃ e, e = suffixLen E n m (min (n - p) (m - p)) 0 := ⟨_, rfl⟩
  obtain ⟨⟨hp, hpE, -⟩, h1, h2⟩ := align_prefix_suffix E n m p e hpd hed
  clear hpd hed
  by_cases hc : p = n ∧ p = m
  · exact ⟨p, 0, 0, 0, hc.1.symm, hc.2.symm, hpE, nofun,
      by rw [h1 hc, ← hc.1]; simp [show nwAlign _ 0 0 = [] from rfl]⟩
  · obtain ⟨he, heE, -, _, ha, rfl, -⟩ := h2 hc
    obtain ⟨n1, rfl⟩ := Nat.exists_eq_add_of_le (Nat.le_min.1 hp).1
    obtain ⟨m1, rfl⟩ := Nat.exists_eq_add_of_le (Nat.le_min.1 hp).2
    rw [Nat.add_sub_cancel_left, Nat.add_sub_cancel_left] at he ha
    obtain ⟨n', rfl⟩ := Nat.exists_eq_add_of_le' (Nat.le_min.1 he).1
    obtain ⟨m', rfl⟩ := Nat.exists_eq_add_of_le' (Nat.le_min.1 he).2
    rw [Nat.add_sub_cancel, Nat.add_sub_cancel] at ha
    refine ⟨p, n', m', e, (Nat.add_assoc ..).symm, (Nat.add_assoc ..).symm, hpE, fun k hk => ?_, ha⟩
    -- `align` counts the suffix from the back: pair `k` of `e = k + r + 1` is its pair `r`
    obtain ⟨r, rfl⟩ := Nat.exists_eq_add_of_lt hk
    have := heE r (Nat.lt_succ_of_le (Nat.le_add_left r k))
    simpa only [← Nat.add_assoc, Nat.add_sub_cancel] using this

/-- equal pairs at both ends may be set aside, whether or not they are all there are (`align` takes the
    maximal runs, but neither validity nor optimality depends on that) -/
theorem wrap_optimal (E : Nat → Nat → Bool) (p n' m' e : Nat) (hp : ∀ k, k < p → E k k = true)
    (he : ∀ k, k < e → E (p + n' + k) (p + m' + k) = true) (s : List Dir)
    (hs : s = List.replicate p .m ++ nwAlign (fun i j => E (p + i) (p + j)) n' m'
      ++ List.replicate e .m) :
    Valid E (p + n' + e) (p + m' + e) s ∧
      ∀ t, Valid E (p + n' + e) (p + m' + e) t → «matches» t ≤ «matches» s := by
  subst hs
  refine ⟨((Valid.replicate_m p hp).append (nwAlign_valid _ n' m')).append (.replicate_m e he),
    fun t ht => ?_⟩
  have h0 := valid_matches_le_cell E _ _ t ht
  have h1 := score_strip_suffix E (p + n') (p + m') e
  have h2 := score_strip_prefix E p n' m'
  simp only [matches_append, matches_replicate_m, nwAlign_matches, score] at h0 h1 h2 ⊢
  omega

theorem align_valid (E : Nat → Nat → Bool) (n m : Nat) : Valid E n m (align E n m) := by
  obtain ⟨p, n', m', e, rfl, rfl, hp, he, h⟩ := align_shape E n m
  exact (wrap_optimal E p n' m' e hp he _ h).1

/-- stripping the equal prefix and suffix never loses a match, for ANY relation `E` -/
theorem align_optimal (E : Nat → Nat → Bool) (n m : Nat) (s : List Dir) (h : Valid E n m s) :
    «matches» s ≤ «matches» (align E n m) := by
  obtain ⟨p, n', m', e, rfl, rfl, hp, he, ha⟩ := align_shape E n m
  exact (wrap_optimal E p n' m' e hp he _ ha).2 s h

theorem align_matches_eq_nwAlign (E : Nat → Nat → Bool) (n m : Nat) :
    «matches» (align E n m) = «matches» (nwAlign E n m) :=
  Nat.le_antisymm (nwAlign_optimal E n m _ (align_valid E n m))
    (align_optimal E n m _ (nwAlign_valid E n m))

theorem addX_validX (E : Nat → Nat → Bool) (n m : Nat) (t : List Dir) (h : ValidX E n m t) :
    ValidX E n m (addX t) :=
  validX_iff_segX.2 ((addX_relabel t).segX (validX_iff_segX.1 h))

theorem addX_valid (E : Nat → Nat → Bool) (n m : Nat) (t : List Dir) (h : Valid E n m t) :
    ValidX E n m (addX t) :=
  addX_validX E n m t h.toValidX

theorem addX_matches (t : List Dir) : «matches» (addX t) = «matches» t :=
  (addX_relabel t).matches_eq

/-- end to end: what the caller of `add_x(align(a, b))` gets -/
theorem addX_align (E : Nat → Nat → Bool) (n m : Nat) :
    ValidX E n m (addX (align E n m)) ∧
    ∀ s, Valid E n m s → «matches» s ≤ «matches» (addX (align E n m)) :=
  ⟨addX_valid E n m _ (align_valid E n m), fun s h => by
    rw [addX_matches]; exact align_optimal E n m s h⟩

section examples

/-- `old[i] == new[j]` for two concrete lists of numbers -/
def ofLists (a b : List Nat) : Nat → Nat → Bool := fun i j => a[i]? == b[j]? && i < a.length

example : Valid (ofLists [1, 2] [2, 1]) 2 2 [.d, .m, .i] :=
  Valid.i (s := [.d, .m]) (Valid.m (s := [.d]) (Valid.d Valid.nil) (by decide))
example : ¬ Valid (ofLists [1] [2]) 1 1 [.m] := by
  intro h
  have := valid_matches_le_cell _ _ _ _ h
  simp [cell_fst, score_succ_succ, ofLists, «matches»] at this

/-- a tie between `i` and `d` (both give one match): `i > d`, so the `i` is taken last, i.e. the
    script is `dmi`, not `imd` -/
example : nwAlign (ofLists [1, 2] [2, 1]) 2 2 = [.d, .m, .i] := by decide
example : align (ofLists [1, 2] [2, 1]) 2 2 = [.d, .m, .i] := by decide
/-- a tie between `m` and `i` (`aa` against `aaa`): `m > i`, so the insertion comes first -/
example : nwAlign (fun _ _ => true) 2 3 = [.i, .m, .m] := by decide
/-- … while `align` strips the common prefix first and puts the insertion last -/
example : align (fun _ _ => true) 2 3 = [.m, .m, .i] := by decide
example : align (ofLists [1, 2, 3] [1, 5, 3]) 3 3 = [.m, .d, .i, .m] := by decide
example : addX (align (ofLists [1, 2, 3] [1, 5, 3]) 3 3) = [.m, .x, .m] := by decide
/-- only runs of equal length are merged -/
example : addX [.d, .d, .i] = [.d, .d, .i] := by decide
example : addX [.d, .d, .i, .i, .m, .d, .i] = [.x, .x, .m, .x] := by decide
example : align (fun i j => i == 0 && j == 1) 2 2 = [.i, .m, .d] := by decide
example : matrix (ofLists [1, 2] [2, 1]) 2 2 =
    [[(0, .e), (0, .i), (0, .i)], [(0, .d), (0, .i), (1, .m)], [(0, .d), (1, .m), (1, .i)]] := by
  decide
/-- fuel: too little fuel does cut the script short, so `backM_fuel` is not vacuous (the last of
    the `i + j + 1` iterations only reads the `e` cell) -/
example : backM (matrix (fun _ _ => false) 1 1) 1 1 1 [] = [.i] ∧
    backM (matrix (fun _ _ => false) 1 1) 3 1 1 [] = [.d, .i] := by
  decide

end examples

end ISnap.Align
