import ISnap.Model.Table
/-
  C06b — `snapshot(v)` is `v` when inline-snapshot is disabled (`state().active == False`):

      def snapshot(obj=undefined):
          if not state().active:
              if obj is undefined: raise AssertionError(...)
              else: return obj

  and a test session in which every `snapshot()` call takes this path never creates a table entry.
-/
namespace ISnap
variable {V : Type}

/-- `snapshot(obj)` when `state().active` is false: returns `obj` itself, or raises for `snapshot()` -/
def snapshotInactive {V : Type} (arg : Option V) : Except Unit V :=
  match arg with
  | some v => .ok v
  | none => .error ()

theorem disabled_identity (v : V) : snapshotInactive (some v) = .ok v := rfl

theorem disabled_missing_raises : snapshotInactive (none : Option V) = .error () := rfl

/-- the only event an inactive session produces (`snapshot()` calls do not reach the table) changes nothing but
    the counters -/
theorem begin_step (o : Ops V) (f : Flags) (t : Table V) :
    (Table.step o f t .begin).1.sites = t.sites ∧ (Table.step o f t .begin).2 = none := ⟨rfl, rfl⟩

/-- When every `snapshot()` call takes the inactive path, the run consists of fixture resets only: no table
    entry is ever created, no result is produced, the counters are zero. -/
theorem inactive_tests_touch_nothing (o : Ops V) (f : Flags) (t : Table V) (n : Nat) :
    (Table.run o f t (List.replicate n .begin)).1.sites = t.sites := by
  induction n generalizing t with
  | zero => rfl
  | succ n ih => exact ih _

theorem inactive_tests_no_results (o : Ops V) (f : Flags) (t : Table V) (n : Nat) :
    (Table.run o f t (List.replicate n .begin)).2 = [] := by
  induction n generalizing t with
  | zero => rfl
  | succ n ih => exact ih _

/-- in particular, starting from the empty table: nothing to report and nothing to fail at the end -/
theorem inactive_session_empty (o : Ops V) (f : Flags) (n : Nat) :
    (Table.run o f ({} : Table V) (List.replicate n .begin)).1.sites = [] ∧
    fixtureFails (Table.run o f ({} : Table V) (List.replicate (n + 1) .begin)).1 = false := by
  refine ⟨inactive_tests_touch_nothing o f _ n, ?_⟩
  induction n with
  | zero => rfl
  | succ n ih => exact ih

end ISnap
