import ISnap.Lemmas.StrLitLemmas
/-
  C12 — every string is written as a literal that reads back identically.

  Model: `ISnap/Model/StrLit.lean`.  Strings are lists of code points (`WfStr s`: every element
  `< 0x110000`, `WfBytes s`: every element `< 256`).  `printable` (Python's `str.isprintable` on one
  character) is an arbitrary predicate, and the theorems hold for EVERY `printable`, except that
  `tripleQuote_isSome` and `valueToLiteral_roundtrip` assume `printable SQ = true`, `printable DQ = true`.
  Without that they are FALSE for the model: when the string contains both `'''` and `\"\"\"` and the
  chosen `extra` quote character is not printable, it is not backslash-escaped, both triple quotes survive
  in the escaped text and `possible_quotes` is empty (`IndexError` in Python) — see
  `tripleQuote_none_example` and the exact characterisations `tripleQuote_isSome_iff`,
  `valueToLiteral_isSome_iff`.  `"` and `'` are printable in every Python, so this is a limit of the
  abstraction, not a defect of the code.
-/
namespace ISnap.StrLit

/-- `repr(s)` lexes back to `s`. -/
theorem evalLit_pyRepr (printable : Nat → Bool) (s : Str) (h : WfStr s) :
    evalLit (pyRepr printable s) = some s :=
  evalLit_repr (reprQuote_cases s) (fun c _ => reprChar_enc printable _ c) h

/-- `repr(b)` for bytes lexes back to `b`. -/
theorem evalBytes_bytesRepr (s : Str) (h : WfBytes s) : evalBytesLit (bytesRepr s) = some s :=
  evalBytesLit_repr (reprQuote_cases s) (fun c hc => bytesReprChar_enc _ c (h c hc))
    fun c hc => Nat.lt_trans (h c hc) (by decide)

/-- a quote type is always available, provided the two quote characters are printable. -/
theorem tripleQuote_isSome (printable : Nat → Bool) (hSQ : printable SQ = true) (hDQ : printable DQ = true)
    (s : Str) : (tripleQuote printable s).isSome := by
  refine (tripleQuote_isSome_iff_possOf printable s).2 ((possOf_ne_nil_iff printable s).2 fun e he => ?_)
  rcases extraOf_quote s e he with rfl | rfl
  · exact hSQ
  · exact hDQ

/-- exact condition, for every `printable`: `triple_quote` succeeds iff the `extra` quote
    character (present only when both `'''` and `\"\"\"` occur in `s`) is printable. -/
theorem tripleQuote_isSome_iff (printable : Nat → Bool) (s : Str) :
    (tripleQuote printable s).isSome ↔ ∀ e, extraOf s = some e → printable e = true :=
  (tripleQuote_isSome_iff_possOf printable s).trans (possOf_ne_nil_iff printable s)

/-- the counterexample to the unconditional statement: nothing printable, `s = '''\"\"\"`. -/
theorem tripleQuote_none_example :
    tripleQuote (fun _ => false) [SQ, SQ, SQ, DQ, DQ, DQ] = none := by decide

/-- whatever literal `triple_quote` returns lexes back to `s` (every `printable`): quote choice when both
    `'''` and `\"\"\"` occur, final-quote escape, `" \n"` rewriting, the leading backslash-newline and the
    trailing continuation. -/
theorem evalLit_tripleQuote (printable : Nat → Bool) (s : Str) (h : WfStr s) (t : Str)
    (ht : tripleQuote printable s = some t) : evalLit t = some s := by
  rcases tripleQuote_cases printable s with ⟨h0, _⟩ | ⟨q, E, he, hmem, hE⟩
  · rw [h0] at ht; cases ht
  · rw [he] at ht; cases ht
    exact evalLit_triple_of_dec (mem_possOf.1 hmem).1 _ _ (Dec.tqBody_helper printable s h hmem hE)

/-- whatever `value_to_token` writes for a str value lexes back to it (every `printable`). -/
theorem valueToLiteral_sound (printable : Nat → Bool) (s : Str) (h : WfStr s) (t : Str)
    (ht : valueToLiteral printable s = some t) : evalLit t = some s := by
  unfold valueToLiteral at ht
  split at ht
  · exact evalLit_tripleQuote printable s h t ht
  · cases ht; exact evalLit_pyRepr printable s h

/-- exact condition, for every `printable`: `value_to_token` writes a literal unless it takes the
    triple-quoted branch and `triple_quote` fails. -/
theorem valueToLiteral_isSome_iff (printable : Nat → Bool) (s : Str) :
    (valueToLiteral printable s).isSome ↔
      (useTriple s = true → ∀ e, extraOf s = some e → printable e = true) := by
  unfold valueToLiteral
  by_cases hu : useTriple s = true
  · rw [if_pos hu, tripleQuote_isSome_iff]
    exact ⟨fun h _ => h, fun h => h hu⟩
  · rw [if_neg hu]
    exact ⟨fun _ h => absurd h hu, fun _ => rfl⟩

/-- `value_to_token` always writes a literal, and it lexes back to the value. -/
theorem valueToLiteral_roundtrip (printable : Nat → Bool) (hSQ : printable SQ = true)
    (hDQ : printable DQ = true) (s : Str) (h : WfStr s) :
    ∃ t, valueToLiteral printable s = some t ∧ evalLit t = some s := by
  obtain ⟨t, ht⟩ := Option.isSome_iff_exists.1 ((valueToLiteral_isSome_iff printable s).2 fun _ =>
    (tripleQuote_isSome_iff printable s).1 (tripleQuote_isSome printable hSQ hDQ s))
  exact ⟨t, ht, valueToLiteral_sound printable s h t ht⟩

/-- the non-triple branch needs no assumption on `printable`. -/
theorem valueToLiteral_roundtrip_repr (printable : Nat → Bool) (s : Str) (h : WfStr s)
    (hu : useTriple s = false) :
    valueToLiteral printable s = some (pyRepr printable s) ∧
      evalLit (pyRepr printable s) = some s := by
  refine ⟨?_, evalLit_pyRepr printable s h⟩
  unfold valueToLiteral
  simp [hu]

/-- the literal `repr` writes has no raw newline (it stays on one source line). -/
theorem pyRepr_no_newline (printable : Nat → Bool) (s : Str) : NL ∉ pyRepr printable s :=
  nl_not_mem_repr (reprQuote_cases s) fun c _ => reprChar_enc printable _ c

/-- `%02x` / `%04x` / `%08x` read back, whatever text follows. -/
theorem readHex_two (c : Nat) (rest : Str) (h : c < 256) :
    readHex 2 0 (hexN 2 c ++ rest) = some (c, rest) := readHex_hexN_zero 2 rest h
theorem readHex_four (c : Nat) (rest : Str) (h : c < 65536) :
    readHex 4 0 (hexN 4 c ++ rest) = some (c, rest) := readHex_hexN_zero 4 rest h
theorem readHex_eight (c : Nat) (rest : Str) (h : c < 4294967296) :
    readHex 8 0 (hexN 8 c ++ rest) = some (c, rest) := readHex_hexN_zero 8 rest h

/-- `a'\n😀\x80` with only ASCII printable: `"a'\n\U0001f600\x80"` -/
example : WfStr [97, 39, 10, 0x1F600, 0x80] := by unfold WfStr; decide
example : pyRepr (fun c => c < 128) [97, 39, 10, 0x1F600, 0x80] =
    [34, 97, 39, 92, 110, 92, 85, 48, 48, 48, 49, 102, 54, 48, 48, 92, 120, 56, 48, 34] := by decide
example : evalLit (pyRepr (fun c => c < 128) [97, 39, 10, 0x1F600, 0x80]) =
    some [97, 39, 10, 0x1F600, 0x80] := by decide

/-- `b'\x00\xff\'"'` -/
example : WfBytes [0, 255, 39, 34] := by unfold WfBytes; decide
example : bytesRepr [0, 255, 39, 34] = [98, 39, 92, 120, 48, 48, 92, 120, 102, 102, 92, 39, 34, 39] := by
  decide
example : evalBytesLit (bytesRepr [0, 255, 39, 34]) = some [0, 255, 39, 34] := by decide

/-- both triple quotes present: `'''\"\"\"` is written with `\"\"\"` and every `"` escaped -/
example : tripleQuote (fun _ => true) [39, 39, 39, 34, 34, 34] =
    some [34, 34, 34, 92, 10, 39, 39, 39, 92, 34, 92, 34, 92, 34, 92, 10, 34, 34, 34] := by decide
example : evalLit [34, 34, 34, 92, 10, 39, 39, 39, 92, 34, 92, 34, 92, 34, 92, 10, 34, 34, 34] =
    some [39, 39, 39, 34, 34, 34] := by decide

/-- `" \n"` rewriting and a final quote: `a \nb"` is written with `'''` -/
example : tripleQuote (fun _ => true) [97, 32, 10, 98, 34] =
    some [39, 39, 39, 92, 10, 97, 32, 92, 110, 92, 10, 98, 34, 92, 10, 39, 39, 39] := by decide

/-- final-quote escape: `\"\"\"\na'` holds `\"\"\"`, so it is written with `'''`, and ends with `'` -/
example : (tripleQuote (fun _ => true) [34, 34, 34, 10, 97, 39]).isSome = true := by decide

/-- `value_to_token` takes the triple-quoted branch for `a\nb` and the `repr` branch for `ab\n` -/
example : valueToLiteral (fun _ => true) [97, 10, 98] =
    some [34, 34, 34, 92, 10, 97, 10, 98, 92, 10, 34, 34, 34] := by decide
example : valueToLiteral (fun _ => true) [97, 98, 10] = some [39, 97, 98, 92, 110, 39] := by decide

end ISnap.StrLit
