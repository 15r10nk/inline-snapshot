import ISnap.Lemmas.SiteStep
/-
  C06 — without approval, snapshot(x) behaves like x.

  Full statement (site level): for every stored argument, every flag set without create / fix /
  update (i.e. ∅ or {trim}), every sequence of comparisons of one operation kind, the results are
  those of the same comparisons on the plain value; a second operation kind raises TypeError and
  leaves the state alone.  Scope as in the property: copyable compared values (`cloneOk`),
  comparisons that do not raise on the plain value (`plainOp … ≠ unsupported`).
-/
namespace ISnap
variable {V : Type}

/-- one comparison on a decided-or-fresh site: result is the plain result, `old` untouched -/
theorem transparent_step (o : Ops V) (f : Flags) (hf : f.cfu = false) (s : Leaf V) (a : OldArg V)
    (op : Op) (x : V) (hold : s.old = some a) (hk : s.kind = .undecided ∨ s.kind = op.kind)
    (hp : plainOp o a op x ≠ .unsupported) :
    (s.step o f op x true).res = plainOp o a op x ∧
    (s.step o f op x true).st.old = some a ∧
    (s.step o f op x true).st.kind = op.kind ∧
    (s.step o f op x true).dm = 0 := by
  obtain ⟨_, r, hr⟩ := (Leaf.plainOp_cases o a op x).resolve_left fun h => hp h.2
  simp [Leaf.step_present hk hold hr, hf, hold, hr]

/-- running a whole sequence of comparisons of one kind -/
def Leaf.runOps (o : Ops V) (f : Flags) (s : Leaf V) (op : Op) : List V → Leaf V × List Res
  | [] => (s, [])
  | x :: xs =>
    let r := s.step o f op x true
    let (s', rs) := Leaf.runOps o f r.st op xs
    (s', r.res :: rs)

/-- C06 `transparent`: every result equals the plain comparison, for every observation sequence. -/
theorem transparent (o : Ops V) (f : Flags) (hf : f.cfu = false) (a : OldArg V) (op : Op)
    (xs : List V) (s : Leaf V) (hold : s.old = some a)
    (hk : s.kind = .undecided ∨ s.kind = op.kind)
    (hp : ∀ x ∈ xs, plainOp o a op x ≠ .unsupported) :
    (s.runOps o f op xs).2 = xs.map (plainOp o a op) := by
  induction xs generalizing s with
  | nil => rfl
  | cons x xs ih =>
    obtain ⟨hres, hold', hk', _⟩ := transparent_step o f hf s a op x hold hk (hp x List.mem_cons_self)
    show (s.step o f op x true).res :: ((s.step o f op x true).st.runOps o f op xs).2 = _
    rw [hres, ih _ hold' (.inr hk') fun y hy => hp y (List.mem_cons_of_mem _ hy)]
    rfl

/-- C06 `mixed_ops_type_error`: a second operation kind raises TypeError, state unchanged. -/
theorem mixed_ops_type_error (o : Ops V) (f : Flags) (s : Leaf V) (op : Op) (x : V) (c : Bool)
    (h1 : s.kind ≠ .undecided) (h2 : s.kind ≠ op.kind) :
    (s.step o f op x c).res = .typeError ∧ (s.step o f op x c).st = s ∧
    (s.step o f op x c).dm = 0 ∧ (s.step o f op x c).di = 0 := by
  rw [Leaf.step_typeError fun h => h.elim h1 h2]
  exact ⟨rfl, rfl, rfl, rfl⟩

/-- sub-snapshots: `s[k] == x` with no approval answers like `old[k] == x` -/
theorem transparent_getitem (o : Ops V) (f : Flags) (hf : f.cfu = false) (s : Site V)
    (es : List (V × V × Bool)) (k v : V) (c : Bool) (op : Op) (x : V)
    (hold : s.top.old = some (.dict es)) (hkind : s.top.kind = .undecided ∨ s.top.kind = .dict)
    (hfresh : lookupChild o.eqv k s.children = none)
    (hentry : lookupEntry o.eqv k es = some (v, c))
    (hp : plainOp o (.leaf v c) op x ≠ .unsupported) :
    (s.step o f (some k) op x true).res = plainOp o (.leaf v c) op x := by
  have hk' : ¬ (s.top.kind ≠ .undecided ∧ s.top.kind ≠ .dict) := by
    rcases hkind with h | h <;> simp [h]
  have h := transparent_step o f hf { old := some (.leaf v c) } (.leaf v c) op x rfl (Or.inl rfl) hp
  simp [Site.step, Site.getItem, hk', hold, hfresh, hentry, h.1]

/-! non-vacuity: a concrete site meeting the hypotheses, and the theorem's content on it -/
example : (({ old := some (.leaf (5 : Int) true) } : Leaf Int).runOps
    { eqv := (· == ·), le := (· ≤ ·), same := (· == ·) } {} .ge [3, 9]).2 = [.val true, .val false] := by
  decide

end ISnap
