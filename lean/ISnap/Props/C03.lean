import ISnap.Lemmas.RewriteLemmas
/-
  C03 — `_rewrite_code.py`: `SourceFile.new_code` touches only the replaced ranges (`newcode_outside_preserved`),
  rejects overlapping replacements (`newcode_overlap_rejected`), and does not run the formatter over a file that
  was not formatter-clean (`newcode_unformatted`).
  The statements use `Chained`, `inLine`, `Canon`, `InLines`, `Canons`, `removed`, `inserted` from
  `Lemmas/RewriteLemmas`.

  Findings recorded by the statements below (each is shown on an example at the end of the file):
    * F1  `replace_frame` needs `a ≤ b` (it fails for `rs = []`, `a > b`), but neither `Chained` nor
          `b ≤ t.length`.
    * F2  `line_to_offset ∘ offset_to_line` is the identity on every offset `≤ len`, also between `\r` and `\n`:
          neither the Python code nor the model clamps the column to the line, that offset is `(line, len + 1)`
          and maps back to itself. So the round trip has no CRLF side condition.
    * F3  `line_to_offset` is not monotone in the (line, column) order: a column past the end of its line
          overshoots into the next lines (`"a\nb"`: (1,5) ≤ (2,0) but offsets 3 > 2). It is monotone when the
          smaller position satisfies `inLine`.
    * F4  so `_check`, which compares (line, column) pairs, does not imply that the offset ranges are ordered or
          disjoint: `checkSorted_chained` needs `InLines` for `Chained`, and `Canons` for `tripleLe`-sortedness
          ((1,2) and (2,0) of `"a\nb"` are different positions with the same offset, and `replace` re-sorts the
          two insertions by their text, against the order `_check` saw).
    * F5  insertions at the same point are emitted in the order of their text, not of their creation
          (`change_id` plays no role): `newcode_two_insertions`.
-/
namespace ISnap.Rewrite

theorem replaceFrom_step (t : Str) (p s e : Nat) (x : Str) (rest : List (Nat × Nat × Str)) :
    replaceFrom t p ((s, e, x) :: rest) = (t.take s).drop p ++ x ++ replaceFrom t e rest := rfl

/-- No ordering assumption on `rs` is needed for the text outside `[a, b]` to survive: of `h` only the first start
    and the last end are used. -/
theorem replaceFrom_frame (t : Str) (p a b : Nat) (rs : List (Nat × Nat × Str))
    (hpa : p ≤ a) (hab : a ≤ b) (h : ∀ r ∈ rs, a ≤ r.1 ∧ r.2.1 ≤ b) :
    ∃ mid, replaceFrom t p rs = (t.take a).drop p ++ mid ++ t.drop b := by
  obtain ⟨m, hm⟩ := replaceFrom_suffix t rs (fun _ => hab)
    (fun r hr => (h r (List.mem_of_mem_getLast? hr)).2)
  refine ⟨m, ?_⟩
  rw [replaceFrom_advance t rs hpa (fun r hr => (h r (List.mem_of_mem_head? hr)).1), hm,
    List.append_assoc]

/-- when every range is ordered (nothing is asked of how the ranges lie to each other), the middle part is
    `replace` run on the window `[a, b)` alone -/
theorem replaceFrom_frame_explicit (t : Str) (p a b : Nat) (rs : List (Nat × Nat × Str))
    (hse : ∀ r ∈ rs, r.1 ≤ r.2.1) (hpa : p ≤ a) (hab : a ≤ b)
    (h : ∀ r ∈ rs, a ≤ r.1 ∧ r.2.1 ≤ b) :
    replaceFrom t p rs = (t.take a).drop p ++ replaceFrom (t.take b) a rs ++ t.drop b := by
  rw [replaceFrom_advance t rs hpa (fun r hr => (h r (List.mem_of_mem_head? hr)).1),
    replaceFrom_cut t b rs a hab (fun r hr => ⟨Nat.le_trans (hse r hr) (h r hr).2, (h r hr).2⟩),
    List.append_assoc]

/-- everything before the first and after the last edited region survives verbatim (hypotheses: F1) -/
theorem replace_frame (t : Str) (rs : List (Nat × Nat × Str)) (a b : Nat) (hab : a ≤ b)
    (h : ∀ r ∈ rs, a ≤ r.1 ∧ r.2.1 ≤ b) :
    ∃ mid, replaceFrom t 0 rs = t.take a ++ mid ++ t.drop b := by
  simpa using replaceFrom_frame t 0 a b rs (Nat.zero_le _) hab h

/-- the same with the middle part explicit; for a non-empty chained list `a ≤ b` follows -/
theorem replace_frame_chained (t : Str) (rs : List (Nat × Nat × Str)) (a b : Nat)
    (hc : Chained t 0 rs) (hne : rs ≠ []) (h : ∀ r ∈ rs, a ≤ r.1 ∧ r.2.1 ≤ b) :
    replaceFrom t 0 rs = t.take a ++ replaceFrom (t.take b) a rs ++ t.drop b := by
  have hab : a ≤ b := by
    obtain ⟨r, hr⟩ := List.exists_mem_of_ne_nil rs hne
    have := hc.bounds r hr
    have := h r hr
    omega
  simpa using replaceFrom_frame_explicit t 0 a b rs (fun r hr => (hc.bounds r hr).2.1) (Nat.zero_le _)
    hab h

/-- between two consecutive replacements the stretch `t[e:s']` appears verbatim
    (holds for every list; for a chained one that stretch has length `s' - e`, see `replace_between_length`) -/
theorem replace_between (t : Str) (rs pre post : List (Nat × Nat × Str)) (s e s' e' : Nat) (x x' : Str)
    (hrs : rs = pre ++ [(s, e, x), (s', e', x')] ++ post) :
    ∃ before after, replaceFrom t 0 rs = before ++ x ++ (t.take s').drop e ++ x' ++ after := by
  subst hrs
  refine ⟨(headPart t 0 pre).1 ++ (t.take s).drop (headPart t 0 pre).2, replaceFrom t e' post, ?_⟩
  rw [List.append_assoc, replaceFrom_append]
  simp

theorem replace_between_length (t : Str) (pre post : List (Nat × Nat × Str)) (s e s' e' : Nat) (x x' : Str)
    (hc : Chained t 0 (pre ++ [(s, e, x), (s', e', x')] ++ post)) :
    e ≤ s' ∧ s' ≤ t.length ∧ ((t.take s').drop e).length = s' - e := by
  obtain ⟨hb, hp⟩ := chained_iff.1 hc
  have h1 : e ≤ s' := hp.forall_sublist
    ((List.sublist_append_right pre _).trans (List.sublist_append_left _ post))
  have h2 := hb (s', e', x') (by simp)
  exact ⟨h1, by omega, by rw [List.length_drop, List.length_take, Nat.min_eq_left (by omega)]⟩

theorem replaceFrom_length (t : Str) (rs : List (Nat × Nat × Str)) (hc : Chained t 0 rs) :
    (replaceFrom t 0 rs).length + removed rs = t.length + inserted rs := by
  simpa using hc.length_replaceFrom (Nat.zero_le _)

theorem replaceText_sorted_chained (t : Str) (rs : List (Nat × Nat × Str))
    (h : rs.Pairwise (fun a b => tripleLe a b = true)) :
    replaceText t rs = replaceFrom t 0 rs := by
  unfold replaceText
  rw [List.mergeSort_of_pairwise h]

/-- the bounds are invariant under the second sort inside `replace` -/
theorem replaceText_frame (t : Str) (rs : List (Nat × Nat × Str)) (a b : Nat) (hab : a ≤ b)
    (h : ∀ r ∈ rs, a ≤ r.1 ∧ r.2.1 ≤ b) :
    ∃ mid, replaceText t rs = t.take a ++ mid ++ t.drop b :=
  replace_frame t (rs.mergeSort tripleLe) a b hab (fun r hr => h r (List.mem_mergeSort.1 hr))

theorem lineToOffset_offsetToLine_clamp (t : Str) (i : Nat) :
    lineToOffset t (offsetToLine t i).1 (offsetToLine t i).2 = min i t.length := by
  have hne : (lineOffsets t).takeWhile (· ≤ min i t.length) ≠ [] := by simp [lineOffsets]
  have h := takeWhile_last (· ≤ min i t.length) (lineOffsets t) 0 hne
  have hlen : ((lineOffsets t).takeWhile (· ≤ min i t.length)).length ≠ 0 := by simpa using hne
  simp only [offsetToLine, lineToOffset, if_neg hlen, h.1]
  rw [Nat.add_sub_cancel' (of_decide_eq_true h.2), Nat.min_eq_left (Nat.min_le_right ..)]

/-- the round trip offset → (line, column) → offset, for every offset up to the length, CRLF or not (F2) -/
theorem lineToOffset_offsetToLine (t : Str) (i : Nat) (h : i ≤ t.length) :
    lineToOffset t (offsetToLine t i).1 (offsetToLine t i).2 = i := by
  rw [lineToOffset_offsetToLine_clamp]; omega

theorem offsetToLine_canonical (t : Str) (i : Nat) :
    Canon t (offsetToLine t i).1 (offsetToLine t i).2 := by
  unfold Canon
  rw [lineToOffset_offsetToLine_clamp]
  simp [offsetToLine]

theorem lineToOffset_le (t : Str) (l c : Nat) : lineToOffset t l c ≤ t.length := by
  unfold lineToOffset
  split
  · exact Nat.zero_le _
  · split
    · exact Nat.le_refl _
    · exact Nat.min_le_right ..

theorem lineToOffset_mono_col (t : Str) (l c1 c2 : Nat) (h : c1 ≤ c2) :
    lineToOffset t l c1 ≤ lineToOffset t l c2 := by
  unfold lineToOffset
  split
  · exact Nat.le_refl _
  · split
    · exact Nat.le_refl _
    · exact Nat.le_min.2 ⟨Nat.le_trans (Nat.min_le_left ..) (Nat.add_le_add_left h _), Nat.min_le_right ..⟩

/-- The hypothesis `inLine t l1 c1` is forced (F3); the clamp `min … len` does not rescue it. -/
theorem lineToOffset_mono (t : Str) (l1 c1 l2 c2 : Nat) (hin : inLine t l1 c1 = true)
    (h : posLe l1 c1 l2 c2 = true) : lineToOffset t l1 c1 ≤ lineToOffset t l2 c2 := by
  rcases (posLe_iff ..).1 h with hlt | ⟨rfl, hc⟩
  · have hle := lineToOffset_le t l1 c1
    conv => rhs; unfold lineToOffset
    rw [if_neg (Nat.ne_of_gt (Nat.zero_lt_of_lt hlt))]
    split
    · exact hle
    · next o2 h2 =>
      obtain ⟨hlen, rfl⟩ := List.getElem?_eq_some_iff.1 h2
      have h12 : l1 ≤ l2 - 1 := Nat.le_sub_one_of_lt hlt
      simp only [inLine, List.getElem?_eq_getElem (Nat.lt_of_le_of_lt h12 hlen), decide_eq_true_eq] at hin
      exact Nat.le_min.2 ⟨Nat.le_trans hin
        (Nat.le_trans (lineOffsets_mono t h12 hlen) (Nat.le_add_right ..)), hle⟩
  · exact lineToOffset_mono_col t l1 c1 c2 hc

theorem canon_inLine (t : Str) (l c : Nat) (h : Canon t l c) : inLine t l c = true := by
  unfold Canon offsetToLine at h
  rw [Nat.min_eq_left (lineToOffset_le t l c)] at h
  have hl : ((lineOffsets t).takeWhile (· ≤ lineToOffset t l c)).length = l := congrArg Prod.fst h
  unfold inLine
  split
  · rfl
  · next o' ho' =>
    rw [← hl] at ho'
    have := takeWhile_next _ _ _ ho'
    simp only [decide_eq_false_iff_not] at this
    simp only [decide_eq_true_eq]; omega

theorem lineToOffset_inj (t : Str) (l1 c1 l2 c2 : Nat) (h1 : Canon t l1 c1) (h2 : Canon t l2 c2)
    (h : lineToOffset t l1 c1 = lineToOffset t l2 c2) : l1 = l2 ∧ c1 = c2 := by
  unfold Canon at h1 h2
  rw [h, h2] at h1
  simpa using h1.symm

/-- with columns inside their lines, `_check` makes the offset list chained, in the order `_check` saw -/
theorem checkSorted_chained_inLines (t : Str) (rs : List Repl) (hc : checkSorted rs = true)
    (hin : InLines t rs) {p : Nat} (hp : ∀ r ∈ rs.head?, p ≤ lineToOffset t r.sl r.sc) :
    Chained t p (rs.map (toOffsets t)) := by
  fun_induction checkSorted rs generalizing p with
  | case1 => exact .nil p
  | case2 r =>
    exact .cons (hp r rfl) (lineToOffset_mono t _ _ _ _ (hin r (by simp)).1 hc) (lineToOffset_le ..) (.nil _)
  | case3 r r' rest ih =>
    simp only [Bool.and_eq_true] at hc
    have hr := hin r (by simp)
    exact .cons (hp r rfl) (lineToOffset_mono t _ _ _ _ hr.1 hc.1.1) (lineToOffset_le ..)
      (ih hc.2 (fun x hx => hin x (by simp [hx]))
        (fun x hx => by cases hx; exact lineToOffset_mono t _ _ _ _ hr.2 hc.1.2))

/-- unequal offsets are ordered by `ho` already; equal offsets mean equal positions (`Canon`), and there both
    orders compare the texts -/
theorem tripleLe_of_le (t : Str) (a b : Repl)
    (ha : Canon t a.sl a.sc ∧ Canon t a.el a.ec) (hb : Canon t b.sl b.sc ∧ Canon t b.el b.ec)
    (hle : Repl.le a b = true)
    (ho : (toOffsets t a).1 ≤ (toOffsets t a).2.1 ∧ (toOffsets t a).2.1 ≤ (toOffsets t b).1 ∧
      (toOffsets t b).1 ≤ (toOffsets t b).2.1) :
    tripleLe (toOffsets t a) (toOffsets t b) = true := by
  rw [tripleLe_iff]
  simp only [toOffsets] at ho ⊢
  by_cases h1 : lineToOffset t a.sl a.sc = lineToOffset t b.sl b.sc
  · by_cases h2 : lineToOffset t a.el a.ec = lineToOffset t b.el b.ec
    · exact .inr ⟨h1, .inr ⟨h2, Repl.le_text (lineToOffset_inj t _ _ _ _ ha.1 hb.1 h1)
        (lineToOffset_inj t _ _ _ _ ha.2 hb.2 h2) hle⟩⟩
    · right; exact ⟨h1, Or.inl (by omega)⟩
  · left; omega

/-- with canonical positions, a sorted and checked list maps to a chained AND `tripleLe`-sorted offset list.
    Hypotheses `hs` and `hcan` are forced (F4). -/
theorem checkSorted_chained (t : Str) (rs : List Repl)
    (hs : rs.Pairwise (fun a b => Repl.le a b = true)) (hc : checkSorted rs = true)
    (hcan : Canons t rs) :
    Chained t 0 (rs.map (toOffsets t)) ∧
      (rs.map (toOffsets t)).Pairwise (fun a b => tripleLe a b = true) := by
  have hch : Chained t 0 (rs.map (toOffsets t)) :=
    checkSorted_chained_inLines t rs hc
      (fun r hr => ⟨canon_inLine _ _ _ (hcan r hr).1, canon_inLine _ _ _ (hcan r hr).2⟩)
      (fun _ _ => Nat.zero_le _)
  refine ⟨hch, ?_⟩
  have hp := List.pairwise_map.1 hch.pairwise
  rw [List.pairwise_map]
  exact (hs.and hp).imp_of_mem
    (fun ha hb h => tripleLe_of_le t _ _ (hcan _ ha) (hcan _ hb) h.1 h.2)

/-- `sorted(self.replacements)` is sorted (the dataclass order is a total preorder) -/
theorem sortRepls_pairwise (rs : List Repl) :
    (sortRepls rs).Pairwise (fun a b => Repl.le a b = true) :=
  Repl.le_totalPreorder.pairwise_mergeSort rs

/-- what `new_code` hands to `replace` is chained and already sorted: the second sort inside `replace` does
    nothing -/
theorem newcode_offsets_chained (t : Str) (rs : List Repl) (hc : checkSorted (sortRepls rs) = true)
    (hcan : Canons t rs) :
    Chained t 0 ((sortRepls rs).map (toOffsets t)) ∧
      replaceText t ((sortRepls rs).map (toOffsets t)) =
        replaceFrom t 0 ((sortRepls rs).map (toOffsets t)) := by
  have h := checkSorted_chained t (sortRepls rs) (sortRepls_pairwise rs) hc
    (fun r hr => hcan r (List.mem_mergeSort.1 hr))
  exact ⟨h.1, replaceText_sorted_chained t _ h.2⟩

/-- under the weaker `InLines`, `replace` still works on a chained list, but possibly a permutation (F4) -/
theorem newcode_offsets_chained_inLines (t : Str) (rs : List Repl)
    (hc : checkSorted (sortRepls rs) = true) (hin : InLines t rs) :
    ∃ os, os.Perm ((sortRepls rs).map (toOffsets t)) ∧ Chained t 0 os ∧
      replaceText t ((sortRepls rs).map (toOffsets t)) = replaceFrom t 0 os :=
  ⟨_, List.mergeSort_perm _ tripleLe,
    (checkSorted_chained_inLines t (sortRepls rs) hc (fun r hr => hin r (List.mem_mergeSort.1 hr))
      (fun _ _ => Nat.zero_le _)).mergeSort, rfl⟩

theorem replaceText_two_insertions (t : Str) (i : Nat) (x y : Str) (hxy : strLe x y = true) :
    replaceText t [(i, i, x), (i, i, y)] = t.take i ++ x ++ y ++ t.drop i ∧
      replaceText t [(i, i, y), (i, i, x)] = t.take i ++ x ++ y ++ t.drop i := by
  have hd : (t.take i).drop i = [] := by simp
  constructor
  · simp [replaceText, mergeSort_pair, tripleLe, hxy, hd]
  · by_cases hyx : strLe y x = true
    · cases linearKey_strLe.antisymm x y hxy hyx
      simp [replaceText, mergeSort_pair, tripleLe, hxy, hd]
    · simp [replaceText, mergeSort_pair, tripleLe, hyx, hd]

theorem newcode_unformatted (fmt : Str → Str) (enforce : Bool) (t : Str) (rs : List Repl)
    (h1 : enforce = false) (h2 : fmt t ≠ t) :
    newCode fmt enforce t rs =
      if checkSorted (sortRepls rs) then some (replaceText t ((sortRepls rs).map (toOffsets t)))
      else none := by
  rw [newCode_eq]; simp [h1, h2]

theorem newcode_formatted (fmt : Str → Str) (enforce : Bool) (t : Str) (rs : List Repl)
    (h : enforce = true ∨ fmt t = t) :
    newCode fmt enforce t rs =
      if checkSorted (sortRepls rs) then
        some (fmt (replaceText t ((sortRepls rs).map (toOffsets t))))
      else none := by
  rw [newCode_eq]; simp [h]

/-- two insertions at one position come out in the order of their text, whichever was created first (F5) -/
theorem newcode_two_insertions (fmt : Str → Str) (t : Str) (l c : Nat) (x y : Str) (ia ib : Nat)
    (hd : fmt t ≠ t) (hxy : strLe x y = true) :
    newCode fmt false t [⟨l, c, l, c, x, ia⟩, ⟨l, c, l, c, y, ib⟩] =
        some (t.take (lineToOffset t l c) ++ x ++ y ++ t.drop (lineToOffset t l c)) ∧
      newCode fmt false t [⟨l, c, l, c, y, ib⟩, ⟨l, c, l, c, x, ia⟩] =
        some (t.take (lineToOffset t l c) ++ x ++ y ++ t.drop (lineToOffset t l c)) := by
  have h := replaceText_two_insertions t (lineToOffset t l c) x y hxy
  have hp : posLe l c l c = true := by simp [posLe]
  -- whichever way the pair is sorted, `_check` passes (`hp`) and `replace` sees two insertions at one offset
  constructor <;>
  · rw [newcode_unformatted _ _ _ _ rfl hd, sortRepls, mergeSort_pair]
    split <;> simp [checkSorted, hp, toOffsets, h.1, h.2]

theorem newcode_overlap_rejected (fmt : Str → Str) (enforce : Bool) (t : Str) (rs : List Repl)
    (h : checkSorted (sortRepls rs) = false) : newCode fmt enforce t rs = none := by
  rw [newCode_eq]; simp [h]

theorem newcode_none_iff (fmt : Str → Str) (enforce : Bool) (t : Str) (rs : List Repl) :
    newCode fmt enforce t rs = none ↔ checkSorted (sortRepls rs) = false := by
  rw [newCode_eq]; cases checkSorted (sortRepls rs) <;> simp

theorem newcode_dirty_eq (fmt : Str → Str) (t : Str) (rs : List Repl) (r : Str)
    (h : newCode fmt false t rs = some r) (hd : fmt t ≠ t) :
    r = replaceText t ((sortRepls rs).map (toOffsets t)) :=
  (newCode_eq_some.1 h).2.trans (if_neg (by simp [hd]))

/-- end to end: a dirty file is untouched outside `[a, b]` when all replacements lie (as offsets) inside.
    `a ≤ b` is forced (F1, `rs = []`); no validity assumption on the positions is needed. -/
theorem newcode_outside_preserved (fmt : Str → Str) (t : Str) (rs : List Repl) (r : Str) (a b : Nat)
    (h : newCode fmt false t rs = some r) (hd : fmt t ≠ t) (hab : a ≤ b)
    (hin : ∀ x ∈ rs, a ≤ lineToOffset t x.sl x.sc ∧ lineToOffset t x.el x.ec ≤ b) :
    ∃ mid, r = t.take a ++ mid ++ t.drop b := by
  rw [newcode_dirty_eq fmt t rs r h hd]
  exact replaceText_frame t _ a b hab
    (List.forall_mem_map.2 fun x hx => hin x (List.mem_mergeSort.1 hx))

/-- with canonical positions the middle part is `replace` run on the window alone -/
theorem newcode_outside_preserved_explicit (fmt : Str → Str) (t : Str) (rs : List Repl) (r : Str)
    (a b : Nat) (h : newCode fmt false t rs = some r) (hd : fmt t ≠ t) (hab : a ≤ b)
    (hcan : Canons t rs)
    (hin : ∀ x ∈ rs, a ≤ lineToOffset t x.sl x.sc ∧ lineToOffset t x.el x.ec ≤ b) :
    r = t.take a ++ replaceFrom (t.take b) a ((sortRepls rs).map (toOffsets t)) ++ t.drop b := by
  obtain ⟨hch, heq⟩ := newcode_offsets_chained t rs (newCode_eq_some.1 h).1 hcan
  rw [newcode_dirty_eq fmt t rs r h hd, heq]
  simpa using replaceFrom_frame_explicit t 0 a b _ (fun r hr => (hch.bounds r hr).2.1) (Nat.zero_le _) hab
    (List.forall_mem_map.2 fun x hx => hin x (List.mem_mergeSort.1 hx))

/-- `a=1\r\né=s(5)\r\nz\n` : a `\r\n` file with a non-ASCII code point (`é` = 233) before the edit -/
def exText : Str := [97, 61, 49, 13, 10, 233, 61, 115, 40, 53, 41, 13, 10, 122, 10]

/-- replace the `5` (line 2, columns 4–5) by `42`; insert `#` at the start of line 3 -/
def exRepls : List Repl := [⟨2, 4, 2, 5, [52, 50], 0⟩, ⟨3, 0, 3, 0, [35], 1⟩]

/-- a "formatter" that is not the identity on `exText`: it strips the trailing `\n` -/
def exFmt : Str → Str := fun s => s.dropLast

example : lineOffsets exText = [0, 5, 13, 15] := by decide
example : toOffsets exText ⟨2, 4, 2, 5, [52, 50], 0⟩ = (9, 10, [52, 50]) := by decide
-- F2: offset 4 lies between `\r` and `\n`; it is (1, 4) and maps back to 4
example : offsetToLine exText 4 = (1, 4) ∧ lineToOffset exText 1 4 = 4 := by decide
example : offsetToLine exText 9 = (2, 4) ∧ offsetToLine exText 15 = (4, 0) := by decide
-- F3: monotonicity fails without `inLine`
example : posLe 1 5 2 0 = true ∧ inLine [97, 10, 98] 1 5 = false ∧
    ¬ lineToOffset [97, 10, 98] 1 5 ≤ lineToOffset [97, 10, 98] 2 0 := by decide
-- F4: (1,2) and (2,0) of "a\nb" are both `inLine`, have the same offset, only (2,0) is canonical
example : inLine [97, 10, 98] 1 2 = true ∧ ¬ Canon [97, 10, 98] 1 2 ∧ Canon [97, 10, 98] 2 0 ∧
    lineToOffset [97, 10, 98] 1 2 = lineToOffset [97, 10, 98] 2 0 := by decide
-- F4: `_check` accepts, the offset ranges (0,3) and (2,3) overlap
example : checkSorted [⟨1, 0, 1, 5, [88], 0⟩, ⟨2, 0, 2, 1, [89], 0⟩] = true ∧
    [(⟨1, 0, 1, 5, [88], 0⟩ : Repl), ⟨2, 0, 2, 1, [89], 0⟩].map (toOffsets [97, 10, 98]) =
      [(0, 3, [88]), (2, 3, [89])] := by decide
-- F1: `replace_frame` without `a ≤ b`
example : ¬ ∃ mid, replaceFrom [1, 2] 0 [] = List.take 2 [1, 2] ++ mid ++ List.drop 0 [1, 2] := by
  rintro ⟨mid, h⟩
  have := congrArg List.length h
  simp at this

-- F4: the two insertions (1,2) `Z` and (2,0) `A` pass `_check` in this order, but land at the same offset 2
-- and `replace` emits `A` before `Z`
theorem exSwap : newCode exFmt false [97, 10, 98] [⟨1, 2, 1, 2, [90], 0⟩, ⟨2, 0, 2, 0, [65], 0⟩] =
      some [97, 10, 65, 90, 98] ∧
    replaceFrom [97, 10, 98] 0
      ((sortRepls [⟨1, 2, 1, 2, [90], 0⟩, ⟨2, 0, 2, 0, [65], 0⟩]).map (toOffsets [97, 10, 98])) =
      [97, 10, 90, 65, 98] := by
  have hm : [(⟨1, 2, 1, 2, [90], 0⟩ : Repl), ⟨2, 0, 2, 0, [65], 0⟩].map (toOffsets [97, 10, 98]) =
      [(2, 2, [90]), (2, 2, [65])] := by decide
  rw [newCode_eq, sortRepls_of_sorted (by decide), hm,
    (replaceText_two_insertions [97, 10, 98] 2 [65] [90] (by decide)).2]
  decide

theorem exRepls_sorted : exRepls.Pairwise (fun a b => Repl.le a b = true) := by decide
theorem exRepls_canon : Canons exText exRepls := by unfold Canons; decide
theorem exFmt_dirty : exFmt exText ≠ exText := by decide

/-- the hypotheses of `checkSorted_chained` are satisfiable -/
example : Chained exText 0 (exRepls.map (toOffsets exText)) ∧
    (exRepls.map (toOffsets exText)).Pairwise (fun a b => tripleLe a b = true) :=
  checkSorted_chained exText exRepls exRepls_sorted (by decide) exRepls_canon

theorem exNewCode : newCode exFmt false exText exRepls =
    some [97, 61, 49, 13, 10, 233, 61, 115, 40, 52, 50, 41, 13, 10, 35, 122, 10] := by
  -- `mergeSort` (well-founded recursion) does not evaluate in the kernel: the input is given sorted, so that
  -- both sorts are the identity, and the rest computes
  rw [newCode_eq, sortRepls_of_sorted exRepls_sorted, replaceText_sorted_chained _ _ (by decide)]
  decide

example : ∃ mid, [97, 61, 49, 13, 10, 233, 61, 115, 40, 52, 50, 41, 13, 10, 35, 122, 10] =
    exText.take 9 ++ mid ++ exText.drop 13 :=
  newcode_outside_preserved exFmt exText exRepls _ 9 13 exNewCode exFmt_dirty (by decide) (by decide)

example : exText.take 9 = [97, 61, 49, 13, 10, 233, 61, 115, 40] ∧ exText.drop 13 = [122, 10] := by
  decide

example : newCode exFmt false exText [⟨2, 4, 2, 6, [52], 0⟩, ⟨2, 5, 2, 6, [53], 1⟩] = none := by
  apply newcode_overlap_rejected
  rw [sortRepls_of_sorted (by decide)]
  decide

/-- F5: two insertions at (3,0): `!` (33) comes before `#` (35) although it was created later -/
example : newCode exFmt false exText [⟨3, 0, 3, 0, [35], 0⟩, ⟨3, 0, 3, 0, [33], 1⟩] =
    some [97, 61, 49, 13, 10, 233, 61, 115, 40, 53, 41, 13, 10, 33, 35, 122, 10] := by
  rw [(newcode_two_insertions exFmt exText 3 0 [33] [35] 1 0 exFmt_dirty (by decide)).2]
  decide

end ISnap.Rewrite
