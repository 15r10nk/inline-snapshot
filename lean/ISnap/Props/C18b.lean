import ISnap.Lemmas.NestLemmas
/-
  C18 (second clause) — "the edits computed for one file never overlap", for nested arguments:
  after `apply_all` has dropped the changes that lie inside a replaced or deleted node (Model/Nest.lean,
  `survivors`), the text ranges of everything that is still applied — the replaced nodes and the stretches
  `generic_sequence_update` rewrites in every touched container — are pairwise disjoint, for every tree, every
  nesting depth and every well-formed set of changes.  `overlap_without_filter` shows that the filter is
  needed (this was the defect fixed in 7da8f5b / 9aefa8e).
-/
namespace ISnap.Nest

theorem survivors_ranges_disjoint (t : Tree) (all : List Edit) (hwf : wellFormed t all = true) :
    (ranges t (survivors all)).Pairwise (fun a b => disjoint a b = true) := by
  simp only [wellFormed, Bool.and_eq_true, decide_eq_true_eq] at hwf
  obtain ⟨⟨_, hrd⟩, hnd⟩ := hwf
  have hrd : ∀ p, Edit.replace p ∈ all → Edit.delete p ∉ all := fun p hp => by
    simpa using List.all_eq_true.1 hrd _ hp
  unfold ranges
  rw [List.pairwise_append]
  refine ⟨?_, ?_, fun a ha x hx => ?_⟩
  · rw [List.pairwise_filterMap]
    rw [List.nodup_iff_pairwise_ne, List.pairwise_filter] at hnd
    refine (hnd.sublist List.filter_sublist).imp_of_mem fun {e e'} he he' hR a ha b hb => ?_
    obtain ⟨p, rfl, hpa⟩ := EditedAt.of_replaced he ha
    obtain ⟨p', rfl, hpb⟩ := EditedAt.of_replaced he' hb
    exact hpa.disjoint hrd hpb fun h => hR rfl rfl (h ▸ rfl)
  · rw [List.pairwise_flatMap]
    refine ⟨fun c _ => ?_, ?_⟩
    · split
      · exact stretches_pairwise _ _ _ _ _ (Nat.le_succ _)
      · exact .nil
    · exact (List.nodup_iff_pairwise_ne.1 (nodup_eraseDups _)).imp_of_mem fun hc hc' hne _ hx _ hy =>
        (EditedAt.of_stretch hc hx).disjoint hrd (.of_stretch hc' hy) hne
  · obtain ⟨e, he, hea⟩ := List.mem_filterMap.1 ha
    obtain ⟨c, hc, hxc⟩ := List.mem_flatMap.1 hx
    obtain ⟨p, rfl, hpa⟩ := EditedAt.of_replaced he hea
    exact hpa.disjoint hrd (.of_stretch hc hxc) fun h =>
      touched_alive (h ▸ hc) (survivors_subset he) rfl (List.append_nil p).symm

/-- no surviving change lies inside a node that a surviving change removes -/
theorem survivor_not_inside (all : List Edit) (e r : Edit) (he : e ∈ survivors all) (hr : r ∈ survivors all)
    (q s : Path) (hq : r.removes = some q) (hs : e.walkStart = some s) : q.isPrefixOf s = false :=
  survivor_not_inside_all he (survivors_subset hr) hq hs

/-- without the filter the ranges overlap: `[a, [b, c], d]`, delete the inner list and replace `b` -/
theorem overlap_without_filter :
    ∃ t all, wellFormed t all = true ∧ ¬ (ranges t all).Pairwise (fun a b => disjoint a b = true) :=
  ⟨.node [.leaf, .node [.leaf, .leaf], .leaf], [.delete [1], .replace [1, 0]], by decide, by decide⟩

section examples
def exT : Tree := .node [.leaf, .node [.leaf, .leaf], .leaf]
def exAll : List Edit := [.delete [1], .replace [1, 0], .insert [1], .replace [0], .insert []]
example : wellFormed exT exAll = true := by decide
example : survivors exAll = [.delete [1], .replace [0], .insert []] := by decide
example : ranges exT (survivors exAll) = [(2, 3), (1, 2), (3, 12), (13, 14)] := by decide
end examples

end ISnap.Nest
