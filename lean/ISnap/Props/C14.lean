import ISnap.Lemmas.SiteRun
import ISnap.Lemmas.TableOps
/-
  C14 — each snapshot() call site has its own state; repeated evaluation aggregates.

  `noninterference`: in the session table, what is computed for call site `k` is a function of
  the events of site `k` alone — for every event list (any interleaving of any number of sites).
  `aggregate_extreme` / `aggregate_union`: repeated evaluations of one call accumulate into the
  extreme bound / the union of members.  `reeval_changed_argument_raises`: a later evaluation whose
  argument has another value raises and records nothing.
  (Events here are the flat ones — snap / op / touch / begin; a `stmt` only sequences them and stops
  at the first exception, which is Python control flow, not shared state.)
-/
namespace ISnap
variable {V : Type}

def Event.site : Event V → Option Nat
  | .snap k _ => some k
  | .op k _ _ _ _ => some k
  | .touch k _ => some k
  | _ => none

def Event.flat : Event V → Bool
  | .stmt _ _ => false
  | _ => true

/-- what one flat event does to the entry of its own site -/
def siteStep (o : Ops V) (f : Flags) (cur : Option (Site V)) : Event V → Option (Site V)
  | .snap _ old => match cur with | none => some (Site.ofOld old) | some s => some s
  | .op _ key op x c => match cur with | none => none | some s => some (s.step o f key op x c).st
  | .touch _ key => match cur with | none => none | some s => some (s.touch o key).st
  | _ => cur

theorem lookup_counters_irrelevant (t : Table V) (m i k : Nat) :
    ({ t with missing := m, incorrect := i } : Table V).lookup k = t.lookup k := rfl

/-- an event leaves every other site's entry alone, and changes its own entry as a function of
    that entry only -/
theorem step_lookup (o : Ops V) (f : Flags) (t : Table V) (e : Event V) (he : e.flat = true) (k : Nat) :
    (t.step o f e).1.lookup k =
      (if e.site = some k then siteStep o f (t.lookup k) e else t.lookup k) := by
  cases e with
  | begin => rfl
  | stmt pre body => cases he
  | snap k' _ | op k' _ _ _ _ | touch k' _ =>
    unfold Table.step
    simp only [Table.snap_fst, Event.site, Option.some.injEq]
    by_cases h : k' = k
    · subst h
      cases hl : t.lookup k' <;> simp [hl, lookup_counters_irrelevant, Table.lookup_set, siteStep]
    · cases hl : t.lookup k' <;> simp [h, lookup_counters_irrelevant, Table.lookup_set]

/-- the entry of site `k` after a run: its own events folded over its entry at the start -/
theorem run_lookup (o : Ops V) (f : Flags) (k : Nat) (es : List (Event V)) (t : Table V)
    (hflat : ∀ e ∈ es, e.flat = true) :
    (Table.run o f t es).1.lookup k =
      (es.filter (fun e => e.site == some k)).foldl (siteStep o f) (t.lookup k) := by
  induction es generalizing t with
  | nil => rfl
  | cons e es ih =>
    refine (ih _ fun e' he' => hflat e' (List.mem_cons_of_mem _ he')).trans ?_
    rw [step_lookup o f t e (hflat e List.mem_cons_self) k, List.filter_cons]
    by_cases hk : e.site = some k <;> simp [hk]

/-- C14 `noninterference`: for every interleaving, the state of call site `k` equals the state it
    gets when only its own events are run (from the same initial entry). -/
theorem noninterference (o : Ops V) (f : Flags) (es : List (Event V)) (t : Table V)
    (hflat : ∀ e ∈ es, e.flat = true) (k : Nat) :
    (Table.run o f t es).1.lookup k =
      (Table.run o f t (es.filter (fun e => e.site == some k))).1.lookup k := by
  rw [run_lookup o f k es t hflat, run_lookup o f k _ t fun e he => hflat e (List.mem_filter.1 he).1,
    List.filter_filter]
  simp only [Bool.and_self]

/-- C14 `aggregate_extreme`: an empty snapshot evaluated repeatedly with `<=` (resp. `>=`) records
    the extreme of all observed values. -/
theorem aggregate_extreme (o : Ops V) (tot : TotalLe o) (f : Flags) (op : Op) (hop : isMM op)
    (xs : List V) (hne : xs ≠ []) :
    ∃ n, (({ old := none } : Leaf V).runOps o f op xs).1.final o { create := true } = .one n ∧
      n ∈ xs ∧ ∀ x ∈ xs, cmpK o op.kind n x = true := by
  obtain ⟨x, xs, rfl⟩ := List.exists_cons_of_ne_nil hne
  obtain ⟨hmem, hall⟩ := extreme_spec tot op.kind xs x
  rw [runOps_mm o f op hop x xs { old := none } (.inl rfl) trivial]
  exact ⟨_, rfl, hmem, hall⟩

/-- C14 `aggregate_union`: an empty snapshot evaluated repeatedly with `in` records every tested
    value, and nothing else. -/
theorem aggregate_union (o : Ops V) (eqv : EqvLaws o) (f : Flags) (xs : List V) (hne : xs ≠ []) :
    ∃ l, (({ old := none } : Leaf V).runOps o f .isin xs).1.final o { create := true } = .many l ∧
      ∀ y, memBy o.eqv y l = memBy o.eqv y xs := by
  obtain ⟨x, xs, rfl⟩ := List.exists_cons_of_ne_nil hne
  rw [runOps_coll o f x xs { old := none } (.inl rfl) trivial]
  exact ⟨_, rfl, mem_gathered_fresh eqv x xs⟩

/-- C14 `reeval_changed_argument_raises`: a later evaluation of the same call with another argument
    value raises a usage error and leaves the table unchanged. -/
theorem reeval_changed_argument_raises (o : Ops V) (t : Table V) (k : Nat) (s : Site V)
    (v w : V) (c c' : Bool) (hl : t.lookup k = some s) (hold : s.top.old = some (.leaf v c))
    (hne : o.eqv v w = false) :
    t.snap o k (some (.leaf w c')) = (t, some .usageError) := by
  simp [Table.snap, hl, hold, reEvalOk, hne]

/-! non-vacuity: two interleaved sites -/
example : let o : Ops Int := { eqv := (· == ·), le := (· ≤ ·), same := (· == ·) }
    ((Table.run o {} ({} : Table Int)
      [.snap 0 none, .snap 1 none, .op 0 none .ge 3 true, .op 1 none .le 3 true,
       .op 0 none .ge 5 true, .op 1 none .le 1 true]).1.lookup 0).map (·.top.new) = some (some 5) := by
  decide

end ISnap
