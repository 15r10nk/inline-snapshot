import ISnap.Lemmas.SiteStep
import ISnap.Lemmas.TableOps
/-
  C07 — a wrong or missing snapshot never yields a green run.

  Full statement (model): in a test (events after the fixture's `begin`), if some executed
  comparison is made on a snapshot that is empty or fails against the value in the source, then at
  teardown `missing_values + incorrect_values > 0` — for EVERY flag set — so the fixture fails the
  test; conversely, if every comparison holds on the stored value, both counters stay 0.
  (Holds for the tree with the `fix:` commit that makes `<=`, `>=`, `in` go through `_return`;
  before that commit `never_green` was false under fix / update / create — see
  `never_green_needed_the_fix` below for the witness on the old rule.)
-/
namespace ISnap
variable {V : Type}

/-- the comparison is made against an empty snapshot, or fails on the stored value -/
def WrongOn (o : Ops V) (s : Leaf V) (op : Op) (x : V) : Prop :=
  (s.kind = .undecided ∨ s.kind = op.kind) ∧
  (s.old = none ∨ ∃ a, s.old = some a ∧ plainOp o a op x = .val false)

def HoldsOn (o : Ops V) (s : Leaf V) (op : Op) (x : V) : Prop :=
  (s.kind = .undecided ∨ s.kind = op.kind) ∧ ∃ a, s.old = some a ∧ plainOp o a op x = .val true

/-- one wrong comparison is counted (or the test got a UsageError), whatever the flags -/
theorem step_wrong_counts (o : Ops V) (f : Flags) (s : Leaf V) (op : Op) (x : V) (c : Bool)
    (hw : WrongOn o s op x) :
    (s.step o f op x c).res = .usageError ∨
      0 < (s.step o f op x c).dm + (s.step o f op x c).di := by
  obtain ⟨hk, hnone | ⟨a, hold, hp⟩⟩ := hw
  · -- empty snapshot: missing_values is incremented before anything else
    rw [Leaf.step_missing hk hnone]
    cases s.grows o op x && !c
    · exact .inr (Nat.add_pos_left Nat.one_pos _)
    · exact .inl rfl
  · -- fails on the stored value: `_return` counts it, unless the value could not be copied
    rw [Leaf.step_present hk hold hp]
    cases s.grows o op x && !c
    · exact .inr Nat.one_pos
    · exact .inl rfl

/-- a comparison that holds on the stored value is never counted -/
theorem step_holds_no_count (o : Ops V) (f : Flags) (s : Leaf V) (op : Op) (x : V) (c : Bool)
    (hh : HoldsOn o s op x) :
    (s.step o f op x c).dm = 0 ∧ (s.step o f op x c).di = 0 := by
  obtain ⟨hk, a, hold, hp⟩ := hh
  rw [Leaf.step_present hk hold hp]
  cases s.grows o op x && !c <;> exact ⟨rfl, rfl⟩

def Event.noBegin : Event V → Bool
  | .begin => false
  | .stmt _ b => b.noBegin
  | _ => true

theorem snap_counters {o : Ops V} {t t1 : Table V} {k : Nat} {old : Option (OldArg V)} {r : Option Res}
    (h : t.snap o k old = (t1, r)) : t.missing = t1.missing ∧ t.incorrect = t1.incorrect := by
  rw [show t1 = (t.snap o k old).1 by rw [h], Table.snap_fst]
  split <;> exact ⟨rfl, rfl⟩

theorem snaps_counters {o : Ops V} {pre : List (Nat × Option (OldArg V))} {t t1 : Table V} {r : Option Res}
    (h : t.snaps o pre = (t1, r)) : t.missing = t1.missing ∧ t.incorrect = t1.incorrect := by
  fun_induction Table.snaps o t pre with
  | case1 => cases h; exact ⟨rfl, rfl⟩
  | case2 _ _ _ _ _ heq ih => exact ⟨(snap_counters heq).1.trans (ih h).1, (snap_counters heq).2.trans (ih h).2⟩
  | case3 _ _ _ _ _ _ heq => cases h; exact snap_counters heq

/-- counters never decrease inside a test -/
theorem step_mono (o : Ops V) (f : Flags) (t : Table V) (e : Event V) (h : e.noBegin = true) :
    t.missing ≤ (t.step o f e).1.missing ∧ t.incorrect ≤ (t.step o f e).1.incorrect := by
  -- the cases of `Table.step`: begin, snap, stmt (a `snapshot(...)` call raised / none did), op and touch
  -- (each with the site unknown / known)
  fun_induction Table.step o f t e with
  | case1 => cases h
  | case2 => exact (snap_counters rfl).imp Nat.le_of_eq Nat.le_of_eq
  | case3 _ _ _ _ _ heq => exact (snaps_counters heq).imp Nat.le_of_eq Nat.le_of_eq
  | case4 _ _ _ _ heq ih => exact ⟨(snaps_counters heq).1 ▸ (ih h).1, (snaps_counters heq).2 ▸ (ih h).2⟩
  | case5 | case7 => exact ⟨Nat.le_refl _, Nat.le_refl _⟩
  | case6 | case8 => exact ⟨Nat.le_add_right _ _, Nat.le_add_right _ _⟩

theorem run_mono (o : Ops V) (f : Flags) (es : List (Event V)) (t : Table V)
    (h : ∀ e ∈ es, e.noBegin = true) :
    t.missing + t.incorrect ≤ (Table.run o f t es).1.missing + (Table.run o f t es).1.incorrect := by
  induction es generalizing t with
  | nil => exact Nat.le_refl _
  | cons e es ih =>
    have h1 := step_mono o f t e (h e List.mem_cons_self)
    exact Nat.le_trans (Nat.add_le_add h1.1 h1.2) (ih _ fun e' he' => h e' (List.mem_cons_of_mem _ he'))

/-- a comparison statement executed on the site itself (not a sub-snapshot) -/
def WrongAt (o : Ops V) (t : Table V) (k : Nat) (op : Op) (x : V) : Prop :=
  ∃ s, t.lookup k = some s ∧ s.top.kind ≠ .dict ∧ WrongOn o s.top op x

theorem step_op_top (o : Ops V) (f : Flags) (t : Table V) (k : Nat) (op : Op) (x : V) (c : Bool)
    {s : Site V} (hl : t.lookup k = some s) (hd : s.top.kind ≠ .dict) :
    (t.step o f (.op k none op x c)).1.missing = t.missing + (s.top.step o f op x c).dm ∧
    (t.step o f (.op k none op x c)).1.incorrect = t.incorrect + (s.top.step o f op x c).di ∧
    (t.step o f (.op k none op x c)).2 = some (s.top.step o f op x c).res := by
  simp [Table.step, hl, Site.step, hd]

theorem run_append (o : Ops V) (f : Flags) (t : Table V) (a b : List (Event V)) :
    (Table.run o f t (a ++ b)).1 = (Table.run o f (Table.run o f t a).1 b).1 := by
  induction a generalizing t with
  | nil => rfl
  | cons e a ih => exact ih _

/-- C07 `never_green`: after the fixture reset, one wrong comparison anywhere in the test (that did
    not itself raise) makes the fixture fail the test — for every flag set. -/
theorem never_green (o : Ops V) (f : Flags) (t0 : Table V) (pre suf : List (Event V))
    (k : Nat) (op : Op) (x : V) (c : Bool)
    (hsuf : ∀ e ∈ suf, e.noBegin = true)
    (hw : WrongAt o (Table.run o f (t0.step o f .begin).1 pre).1 k op x)
    (hres : ((Table.run o f (t0.step o f .begin).1 pre).1.step o f (.op k none op x c)).2
              ≠ some .usageError) :
    fixtureFails (Table.run o f t0 (.begin :: pre ++ .op k none op x c :: suf)).1 = true := by
  -- the run is: reset, `pre`, the wrong comparison (counted), `suf` (which takes nothing back)
  show fixtureFails (Table.run o f (t0.step o f .begin).1 (pre ++ .op k none op x c :: suf)).1 = true
  rw [run_append]
  generalize (Table.run o f (t0.step o f .begin).1 pre).1 = t at hw hres ⊢
  obtain ⟨s, hl, hd, hw⟩ := hw
  obtain ⟨hm, hi, hr⟩ := step_op_top o f t k op x c hl hd
  have h1 := (step_wrong_counts o f s.top op x c hw).resolve_left fun h => hres (hr.trans (congrArg some h))
  have h2 := run_mono o f suf (t.step o f (.op k none op x c)).1 hsuf
  show fixtureFails (Table.run o f (t.step o f (.op k none op x c)).1 suf).1 = true
  simp only [fixtureFails, bne_iff_ne, ne_eq, Bool.or_eq_true]
  omega

/-- every comparison of the test holds on the value in the source -/
inductive AllHold (o : Ops V) (f : Flags) : Table V → List (Event V) → Prop where
  | nil (t) : AllHold o f t []
  | snap (t k old es) : AllHold o f (t.step o f (.snap k old)).1 es → AllHold o f t (.snap k old :: es)
  | op (t k op x c es s) : t.lookup k = some s → s.top.kind ≠ .dict → HoldsOn o s.top op x →
      AllHold o f (t.step o f (.op k none op x c)).1 es → AllHold o f t (.op k none op x c :: es)

/-- C07 `no_false_failure`: a test whose snapshots all hold is never failed by the fixture. -/
theorem no_false_failure (o : Ops V) (f : Flags) (t : Table V) (es : List (Event V))
    (h : AllHold o f t es) (hm : t.missing = 0) (hi : t.incorrect = 0) :
    fixtureFails (Table.run o f t es).1 = false := by
  induction h with
  | nil t => simp [Table.run, fixtureFails, hm, hi]
  | snap t k old es _ ih =>
    exact ih ((snap_counters rfl).1.symm.trans hm) ((snap_counters rfl).2.symm.trans hi)
  | op t k op x c es s hl hd hh _ ih =>
    obtain ⟨hm', hi', _⟩ := step_op_top o f t k op x c hl hd
    have hz := step_holds_no_count o f s.top op x c hh
    exact ih (by rw [hm', hm, hz.1]) (by rw [hi', hi, hz.2])

def intOps : Ops Int := { eqv := (· == ·), le := (· ≤ ·), same := (· == ·) }

/-- `s = snapshot(5); assert 1 <= s; assert 9 <= s` under `create`: now counted. -/
example : fixtureFails (Table.run intOps { create := true } {}
    [.begin, .snap 0 (some (.leaf 5 true)), .op 0 none .ge 1 true, .op 0 none .ge 9 true]).1 = true := by
  decide

/-- hypotheses of `never_green` are satisfiable: the second comparison of that test is `WrongAt`. -/
example : WrongAt intOps (Table.run intOps { create := true } ({} : Table Int)
    [.begin, .snap 0 (some (.leaf 5 true)), .op 0 none .ge 1 true]).1 0 .ge 9 := by
  refine ⟨_, rfl, by decide, ?_⟩
  exact ⟨Or.inr rfl, Or.inr ⟨.leaf 5 true, rfl, by decide⟩⟩

/-- The rule before the fix (`if old is undefined or ignore_old_value(): return True`, and
    `_return(cmp(visible, x))` afterwards) on the same witness: the failing bound is not counted.
    `oldRuleCounts` is the increment of `incorrect_values` that rule produced for a later comparison. -/
def oldRuleCounts (f : Flags) (old new x : Int) : Nat :=
  let n' := if new ≥ x then new else x
  let vis := if f.cfu then n' else old
  if vis ≥ x then 0 else 1

theorem never_green_needed_the_fix : oldRuleCounts { create := true } 5 1 9 = 0 ∧ ¬ (5 ≥ (9 : Int)) := by
  decide

end ISnap
