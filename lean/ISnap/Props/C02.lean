import ISnap.Lemmas.AssignLemmas
/-
  C02 — approving `fix` repairs the snapshot (`x == snapshot(<list/tuple/dict display>)`, any depth).

  Model: `ISnap.Assign` (`eval`, `canon`, `assign`, `cats`, `merged`, `run`).
  Hypotheses (defined in `ISnap.Lemmas.AssignVal`):
    * `Managed e`  — no unmanaged leaf (`Is(..)`, dirty-equals, inner snapshot), f-string or `*`/`**` in `e`,
                     and no `Unmanaged` wrapper inside a leaf value;
    * `WfExpr e`   — the keys of every dict display (and of dict values of leaves) are pairwise different
                     w.r.t. Python `==`;
    * `ValOk n`    — the observed value contains no `Unmanaged` wrapper;
    * `WfVal n`    — the keys of every dict inside `n` are pairwise different (true of every Python dict).
-/
namespace ISnap.Assign
open ISnap

/-- `code_repr` round-trips: the written expression evaluates to the value.
    (`ValOk` is not needed: see `eval_canon_any`.) -/
theorem eval_canon (v : Val) (_h : ValOk v) : eval (canon v) = v := eval_canon_any v

/-- the value `assign` returns — what the comparison is answered with once fix/update is active —
    equals the observed value, at every nesting depth -/
theorem merged_eq (e : Expr) (n : Val) (he : Managed e) (hn : ValOk n) (hwe : WfExpr e)
    (hwn : WfVal n) : pyEq (merged e n) n = true :=
  merged_eq_gen Flags.empty e (ge_of he hwe) n (gv_of hn hwn)

/-- … whatever the approved categories are (the returned value does not depend on them) -/
theorem merged_eq_flags (F : Flags) (e : Expr) (n : Val) (he : Managed e) (hn : ValOk n)
    (hwe : WfExpr e) (hwn : WfVal n) : pyEq (assign F e n).merged n = true :=
  merged_eq_gen F e (ge_of he hwe) n (gv_of hn hwn)

/-- what is reported and what is returned do not depend on the approved categories (any expression) -/
theorem cats_merged_flags_indep (F : Flags) (e : Expr) (n : Val) :
    (assign F e n).cats = cats e n ∧ (assign F e n).merged = merged e n :=
  indep_gen F Flags.empty e n

/-- after applying `fix` (whatever else is approved) the argument evaluates to the observed value -/
theorem fix_repairs (F : Flags) (e : Expr) (n : Val) (hF : F.fix = true) (he : Managed e)
    (hn : ValOk n) (hwe : WfExpr e) (hwn : WfVal n) : pyEq (eval (run F e n)) n = true :=
  fix_repairs_gen F hF e (ge_of he hwe) n (gv_of hn hwn)

/-- `fix` is reported exactly when the comparison with the old value fails -/
theorem no_fix_needed_iff (e : Expr) (n : Val) (he : Managed e) (hn : ValOk n) (hwe : WfExpr e)
    (hwn : WfVal n) : (cats e n).fix = false ↔ pyEq (eval e) n = true :=
  nofix_iff_eq Flags.empty e (ge_of he hwe) n (gv_of hn hwn)

/-- the result of a run is again managed and well formed (so the theorems apply to it again) -/
theorem run_managed (F : Flags) (e : Expr) (n : Val) (he : Managed e) (hn : ValOk n) (hwe : WfExpr e)
    (hwn : WfVal n) : Managed (run F e n) ∧ WfExpr (run F e n) :=
  ge_iff.1 (ge_run_gen F e (ge_of he hwe) n (gv_of hn hwn))

/-- without `fix` approved the value of the argument does not change: an update only changes the
    spelling (both directions of `==`) -/
theorem update_keeps_value (F : Flags) (e : Expr) (n : Val) (hF : F.fix = false) (he : Managed e)
    (hn : ValOk n) (hwe : WfExpr e) (hwn : WfVal n) :
    pyEq (eval e) (eval (run F e n)) = true ∧ pyEq (eval (run F e n)) (eval e) = true := by
  have h1 := keep_gen F hF e (ge_of he hwe) n (gv_of hn hwn)
  have g1 := gv_eval e (ge_of he hwe)
  have g2 := gv_eval _ (ge_run_gen F e (ge_of he hwe) n (gv_of hn hwn))
  exact ⟨h1, pyEq_symm _ g1 _ g2 h1⟩

/-- … hence it compares with every value exactly as before -/
theorem update_keeps_verdict (F : Flags) (e : Expr) (n : Val) (hF : F.fix = false) (he : Managed e)
    (hn : ValOk n) (hwe : WfExpr e) (hwn : WfVal n) (w : Val) :
    pyEq (eval (run F e n)) w = pyEq (eval e) w := by
  have h := update_keeps_value F e n hF he hn hwe hwn
  have g1 := gv_eval e (ge_of he hwe)
  have g2 := gv_eval _ (ge_run_gen F e (ge_of he hwe) n (gv_of hn hwn))
  exact pyEq_congr_left g2 g1 h.2 w

/-! ### non-vacuity -/

section examples
open Ex

example : Managed e0 ∧ WfExpr e0 ∧ ValOk n0 ∧ WfVal n0 ∧ ValOk n1 ∧ WfVal n1 := by decide
/-- `n0` differs from the value of `e0` (inside the dict and the inner tuple), `n1` is equal to it
    although written differently (`True` vs `1`, other key order) -/
example : pyEq (eval e0) n0 = false ∧ pyEq (eval e0) n1 = true := by decide
example : (cats e0 n0).fix = true :=
  Bool.of_not_eq_false (mt (no_fix_needed_iff e0 n0 (by decide) (by decide) (by decide) (by decide)).1 (by decide))
example : (cats e0 n1).fix = false :=
  (no_fix_needed_iff e0 n1 (by decide) (by decide) (by decide) (by decide)).2 (by decide)
example : pyEq (eval (run fixOnly e0 n0)) n0 = true :=
  fix_repairs _ _ _ rfl (by decide) (by decide) (by decide) (by decide)
example : eval (canon n0) = n0 := eval_canon n0 (by decide)
/-- a run computed step by step: one insertion and one kept element, everything approved -/
example : run Flags.all (.seq false [.leaf 1 false (.atom (.int 1))]) (.list [.atom (.int 2), .atom (.int 1)])
    = .seq false [.leaf 0 true (.atom (.int 2)), .leaf 0 true (.atom (.int 1))] := by
  rw [run, assign_seq_of (by decide) (by decide)]
  generalize hs : script _ _ = sc
  obtain rfl : sc = [.i, .m] := hs.symm.trans (by decide)
  rw [listOf, assignSeq_i, assignSeq_m, assignSeq_nil, assign_leaf (gv_atom _)]
  rfl
/-- the hypotheses matter: with an unmanaged leaf the returned value is the old one -/
example : pyEq (merged (.unm 0 (.unmIs 0 (.atom (.int 1)))) (.atom (.int 2))) (.atom (.int 2)) = false := by
  simp [merged, pyEq, Atom.pyEq, Atom.num?]

end examples

end ISnap.Assign
