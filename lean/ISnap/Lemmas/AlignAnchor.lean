import ISnap.Props.C11
import ISnap.Model.SeqEdit
/-
  The edit scripts `add_x(align(old, new))` never contain an insertion directly followed by a deletion, and
  therefore the insert positions `SequenceAdapter.assign` hands to `generic_sequence_update` are anchored
  (`insertsAnchored`, Model/SeqEdit.lean).
-/
namespace ISnap.SeqEdit
open ISnap.Align

/-- no insertion directly followed by a deletion -/
def noID : List Dir → Bool
  | .i :: .d :: _ => false
  | _ :: rest => noID rest
  | [] => true

/-- what `SequenceAdapter.assign` hands to `generic_sequence_update` for an edit script: one entry per old
    element (`m` / `x`: kept, `d`: deleted; key = old index, the gap after it is `gap oldIndex`), the code of
    every `i` (key `1000 + newIndex`) is inserted at the number of old elements seen so far -/
def plan (gap : Nat → List Tok) : List Dir → Nat → Nat → List Nat → List Entry × List (List Nat)
  | [], _, _, pending => ([], [pending])
  | .i :: t, o, n, pending => plan gap t o (n + 1) (pending ++ [1000 + n])
  | .d :: t, o, n, pending =>
    let r := plan gap t (o + 1) n []
    ({ key := o, keep := false, gapAfter := gap o } :: r.1, pending :: r.2)
  | .e :: t, o, n, pending => plan gap t o n pending
  | _ :: t, o, n, pending =>          -- m, x
    let r := plan gap t (o + 1) (n + 1) []
    ({ key := o, keep := true, gapAfter := gap o } :: r.1, pending :: r.2)

@[simp] theorem noID_nil : noID [] = true := rfl

theorem noID_cons (a : Dir) (rest : List Dir) :
    noID (a :: rest) = (!(a == .i && rest.head? == some .d) && noID rest) := by
  cases rest with
  | nil => cases a <;> rfl
  | cons b rest => cases a <;> cases b <;> rfl

theorem noID_append (s t : List Dir) :
    noID (s ++ t) = (noID s && noID t && !(s.getLast? == some .i && t.head? == some .d)) := by
  induction s with
  | nil => simp
  | cons a s ih =>
    rw [List.cons_append, noID_cons, ih, noID_cons a s]
    cases s with
    | nil => cases noID t <;> simp
    | cons b s => simp only [List.cons_append, List.head?_cons, List.getLast?_cons_cons, Bool.and_assoc]

theorem noID_replicate (k : Nat) (c : Dir) : noID (List.replicate k c) = true := by
  induction k with
  | zero => rfl
  | succ k ih =>
    rw [List.replicate_succ, noID_cons, ih]
    cases k <;> cases c <;> rfl

theorem trace_noID {E i j s} (h : Trace E i j s) : noID s = true := by
  induction h with
  | nil => rfl
  | m _ _ _ ih => simp [noID_append, ih, noID_cons]
  | i _ _ ih => simp [noID_append, ih, noID_cons]
  | @d i j s hc h ih =>
    -- `d` is only picked if `score (i+1) j < score i (j+1)` (a tie goes to `i`); were the cell above an `i`
    -- cell, its score would be `score i j ≤ score (i+1) j`
    have : s.getLast? ≠ some .i := by
      intro hl
      cases h with
      | nil | m | d => simp at hl
      | @i _ j _ hc0 _ =>
        have h0 : score E i (j+1) = score E i j := by rw [score, hc0]
        have := score_mono_left E i j
        rcases cell_cases E i j with ⟨-, hc'⟩ | ⟨-, hc'⟩ | ⟨hlt, -⟩
        · simp [hc'] at hc
        · simp [hc'] at hc
        · omega
    simpa [noID_append, ih, noID_cons] using this

theorem align_noID (E : Nat → Nat → Bool) (n m : Nat) : noID (align E n m) = true := by
  obtain ⟨p, n', m', e, -, -, -, -, h⟩ := align_shape E n m
  rw [h, noID_append, noID_append, noID_replicate, noID_replicate, trace_noID (nwAlign_trace ..)]
  cases p <;> cases e <;> simp [List.getLast?_replicate, List.head?_replicate]

theorem relabel_noID {s t} (h : Relabel s t) :
    noID s = true → noID t = true ∧ (t.head? = some .d → s.head? = some .d) := by
  induction h with
  | nil => exact fun _ => ⟨rfl, nofun⟩
  | @cons s t c _ ih =>
    intro h
    rw [noID_cons, Bool.and_eq_true] at h ⊢
    obtain ⟨h1, h2⟩ := ih h.2
    refine ⟨⟨?_, h1⟩, id⟩
    by_cases hd : t.head? = some .d
    · rw [h2 hd] at h; rw [hd]; exact h.1
    · simp [hd]
  | block k _ ih =>
    intro h
    simp only [noID_append, Bool.and_eq_true] at h
    obtain ⟨h1, h2⟩ := ih h.1.2.1.2
    cases k with
    | zero => simpa using ⟨h1, h2⟩
    | succ k =>
      exact ⟨by simp [noID_append, noID_replicate, h1, List.getLast?_replicate],
        by simp [List.replicate_succ]⟩

theorem insertsAnchored_cons (a : List Nat) (ins : List (List Nat)) (i : Nat) (es : List Entry) :
    insertsAnchored (a :: ins) (i + 1) es = insertsAnchored ins i es := by
  induction es generalizing i with
  | nil => rfl
  | cons e rest ih => unfold insertsAnchored; simp [ih]

theorem plan_anchored (gap : Nat → List Tok) (t : List Dir) :
    ∀ o n pending, noID t = true → Dir.e ∉ t → (pending ≠ [] → t.head? ≠ some .d) →
      insertsAnchored (plan gap t o n pending).2 0 (plan gap t o n pending).1 = true := by
  induction t with
  | nil => intros; rfl
  | cons a t ih =>
    intro o n pending h he hp
    rw [noID_cons, Bool.and_eq_true] at h
    have he' : Dir.e ∉ t := fun hh => he (List.mem_cons_of_mem _ hh)
    cases a with
    | e => exact absurd List.mem_cons_self he
    | i => exact ih _ _ _ h.2 he' fun _ => by simpa using h.1
    | d =>
      -- code pending in front of a deleted element would not be anchored: there is none
      have : pending = [] := Decidable.byContradiction fun hne => hp hne rfl
      unfold plan insertsAnchored
      simpa [insertsAnchored_cons, this] using ih _ _ [] h.2 he' (by simp)
    | m | x =>
      unfold plan insertsAnchored
      simpa [insertsAnchored_cons] using ih _ _ [] h.2 he' (by simp)

/-- the hypothesis `e ∉ t` is needed: `plan` skips `e`, so the code of an `i` stays pending over it -/
theorem plan_anchored_needs_no_e :
    noID [.i, .e, .d] = true ∧
      insertsAnchored (plan (fun _ => []) [.i, .e, .d] 0 0 []).2 0 (plan (fun _ => []) [.i, .e, .d] 0 0 []).1
        = false := by decide

end ISnap.SeqEdit
