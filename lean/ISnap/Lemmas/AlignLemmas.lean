import ISnap.Model.Align
/-
  For C11 (`_align.py`). Besides lemmas, this file defines the notions the statements there are phrased with
  (`Valid`, `ValidX`, `matches`, `score`): they have to be read to know what those theorems say.
-/
namespace ISnap.Align

/-- `s` is an alignment of the first `i` old and first `j` new elements: `m` consumes one of each and
    needs `E`, `i` consumes a new one, `d` an old one -/
inductive Valid (E : Nat → Nat → Bool) : Nat → Nat → List Dir → Prop
  | nil : Valid E 0 0 []
  | m {i j s} : Valid E i j s → E i j = true → Valid E (i+1) (j+1) (s ++ [.m])
  | i {i j s} : Valid E i j s → Valid E i (j+1) (s ++ [.i])
  | d {i j s} : Valid E i j s → Valid E (i+1) j (s ++ [.d])

/-- same, where `x` consumes one old and one new element without requiring `E` (a replacement) -/
inductive ValidX (E : Nat → Nat → Bool) : Nat → Nat → List Dir → Prop
  | nil : ValidX E 0 0 []
  | m {i j s} : ValidX E i j s → E i j = true → ValidX E (i+1) (j+1) (s ++ [.m])
  | i {i j s} : ValidX E i j s → ValidX E i (j+1) (s ++ [.i])
  | d {i j s} : ValidX E i j s → ValidX E (i+1) j (s ++ [.d])
  | x {i j s} : ValidX E i j s → ValidX E (i+1) (j+1) (s ++ [.x])

def «matches» (s : List Dir) : Nat := s.count .m

def score (E : Nat → Nat → Bool) (i j : Nat) : Nat := (cell E i j).1

theorem cell_fst (E : Nat → Nat → Bool) (i j : Nat) : (cell E i j).1 = score E i j := rfl

theorem pick_cases (eq : Bool) (la lc lb : Nat) :
    (eq = true ∧ la ≤ lc + 1 ∧ lb ≤ lc + 1 ∧ pick eq la lc lb = (lc + 1, .m)) ∨
    ((eq = true → lc + 1 < la) ∧ lb ≤ la ∧ pick eq la lc lb = (la, .i)) ∨
    ((eq = true → lc + 1 < lb) ∧ la < lb ∧ pick eq la lc lb = (lb, .d)) := by
  unfold pick
  split
  · next h =>
    simp only [Bool.and_eq_true, decide_eq_true_eq] at h
    exact .inl ⟨h.1.1, h.1.2, h.2, rfl⟩
  · next h =>
    simp only [Bool.and_eq_true, decide_eq_true_eq, not_and, Nat.not_le] at h
    have h (he : eq = true) : lc + 1 < la ∨ lc + 1 < lb := by
      by_cases c : lc + 1 ≥ la
      · exact .inr (h ⟨he, c⟩)
      · exact .inl (Nat.lt_of_not_le c)
    split
    · next h' => exact .inr (.inl ⟨fun he => (h he).elim id (Nat.lt_of_lt_of_le · h'), h', rfl⟩)
    · next h' =>
      have hlt := Nat.lt_of_not_le h'
      exact .inr (.inr ⟨fun he => (h he).elim (Nat.lt_trans · hlt) id, hlt, rfl⟩)

theorem pick_fst (eq : Bool) (la lc lb : Nat) :
    (pick eq la lc lb).1 = max (max la lb) (if eq then lc + 1 else 0) := by
  rcases pick_cases eq la lc lb with ⟨he, h1, h2, h⟩ | ⟨he, h1, h⟩ | ⟨he, h1, h⟩ <;> rw [h]
  · rw [if_pos he]; exact (Nat.max_eq_right (Nat.max_le.2 ⟨h1, h2⟩)).symm
  · rw [Nat.max_eq_left h1]; split
    · exact (Nat.max_eq_left (Nat.le_of_lt (he ‹_›))).symm
    · exact (Nat.max_eq_left (Nat.zero_le _)).symm
  · rw [Nat.max_eq_right (Nat.le_of_lt h1)]; split
    · exact (Nat.max_eq_left (Nat.le_of_lt (he ‹_›))).symm
    · exact (Nat.max_eq_left (Nat.zero_le _)).symm

@[simp] theorem cell_zero_zero (E) : cell E 0 0 = (0, .e) := by unfold cell; rfl
@[simp] theorem cell_zero_succ (E) (j : Nat) : cell E 0 (j+1) = (0, .i) := by unfold cell; rfl
@[simp] theorem cell_succ_zero (E) (i : Nat) : cell E (i+1) 0 = (0, .d) := by unfold cell; rfl
theorem cell_succ_succ (E) (i j : Nat) :
    cell E (i+1) (j+1) = pick (E i j) (cell E (i+1) j).1 (cell E i j).1 (cell E i (j+1)).1 := by
  conv => lhs; unfold cell

@[simp] theorem score_zero_left (E) (j : Nat) : score E 0 j = 0 := by
  cases j <;> simp [score]
@[simp] theorem score_zero_right (E) (i : Nat) : score E i 0 = 0 := by
  cases i <;> simp [score]
theorem score_succ_succ (E) (i j : Nat) :
    score E (i+1) (j+1) =
      max (max (score E (i+1) j) (score E i (j+1))) (if E i j then score E i j + 1 else 0) := by
  simp only [score, cell_succ_succ, pick_fst]

theorem cell_cases (E : Nat → Nat → Bool) (i j : Nat) :
    (E i j = true ∧ cell E (i+1) (j+1) = (score E i j + 1, .m)) ∨
    (score E i (j+1) ≤ score E (i+1) j ∧ cell E (i+1) (j+1) = (score E (i+1) j, .i)) ∨
    (score E (i+1) j < score E i (j+1) ∧ cell E (i+1) (j+1) = (score E i (j+1), .d)) := by
  rw [cell_succ_succ]
  rcases pick_cases (E i j) (score E (i+1) j) (score E i j) (score E i (j+1)) with
    ⟨h, -, -, hp⟩ | ⟨-, h, hp⟩ | ⟨-, h, hp⟩
  · exact .inl ⟨h, hp⟩
  · exact .inr (.inl ⟨h, hp⟩)
  · exact .inr (.inr ⟨h, hp⟩)

theorem score_mono_right (E) (i j : Nat) : score E i j ≤ score E i (j+1) := by
  cases i with
  | zero => simp
  | succ i => rw [score_succ_succ]; exact Nat.le_trans (Nat.le_max_left ..) (Nat.le_max_left ..)

theorem score_mono_left (E) (i j : Nat) : score E i j ≤ score E (i+1) j := by
  cases j with
  | zero => simp
  | succ j => rw [score_succ_succ]; exact Nat.le_trans (Nat.le_max_right ..) (Nat.le_max_left ..)

theorem score_diag (E) (i j : Nat) (h : E i j = true) : score E i j + 1 ≤ score E (i+1) (j+1) := by
  rw [score_succ_succ, if_pos h]; exact Nat.le_max_right ..

@[simp] theorem matches_nil : «matches» [] = 0 := rfl
@[simp] theorem matches_append (s t : List Dir) : «matches» (s ++ t) = «matches» s + «matches» t := by
  simp [«matches»]
@[simp] theorem matches_cons_m (s : List Dir) : «matches» (.m :: s) = «matches» s + 1 := by
  simp [«matches»]
@[simp] theorem matches_replicate_m (k : Nat) : «matches» (List.replicate k .m) = k := by
  simp [«matches»]

/-- row `k` of the specification matrix, columns `0 … m` -/
def rowSpec (E : Nat → Nat → Bool) (m k : Nat) : List Cell := (List.range (m+1)).map (cell E k)

theorem nextRowAux_spec (E : Nat → Nat → Bool) (i d j : Nat) :
    nextRowAux (E i) j (cell E (i+1) j) ((List.range' j (d+1)).map (cell E i)) =
      (List.range' (j+1) d).map (cell E (i+1)) := by
  induction d generalizing j with
  | zero => simp [List.range', nextRowAux]
  | succ d ih =>
    have := ih (j+1)
    simp only [List.range'_succ, List.map_cons] at this ⊢
    rw [nextRowAux]
    simp only [← cell_succ_succ]
    rw [this]

theorem firstRow_spec (E) (m : Nat) : firstRow m = rowSpec E m 0 := by
  simp [firstRow, rowSpec, List.range_succ_eq_map, Function.comp_def, List.map_const']

theorem nextRow_spec (E) (m i : Nat) : nextRow (E i) (rowSpec E m i) = rowSpec E m (i+1) := by
  unfold nextRow rowSpec
  rw [List.range_eq_range']
  have := nextRowAux_spec E i m 0
  simp only [cell_succ_zero] at this
  rw [this, List.range'_succ]
  simp

theorem rowsRev_spec (E) (m i : Nat) :
    rowsRev E m i = ((List.range (i+1)).map (rowSpec E m)).reverse := by
  induction i with
  | zero => simp [rowsRev, firstRow_spec E]
  | succ i ih =>
    rw [rowsRev, ih, List.range_succ (n := i+1), List.range_succ]
    simp [nextRow_spec]

/-- `s` is read off the cells on the way from `(i, j)` back to `(0, 0)`, the first step last: each step
    records what its cell holds, the letter and the score taken over from the neighbour it points to -/
inductive Trace (E : Nat → Nat → Bool) : Nat → Nat → List Dir → Prop
  | nil : Trace E 0 0 []
  | m {i j s} : E i j = true → cell E (i+1) (j+1) = (score E i j + 1, .m) → Trace E i j s →
      Trace E (i+1) (j+1) (s ++ [.m])
  | i {i j s} : cell E i (j+1) = (score E i j, .i) → Trace E i j s → Trace E i (j+1) (s ++ [.i])
  | d {i j s} : cell E (i+1) j = (score E i j, .d) → Trace E i j s → Trace E (i+1) j (s ++ [.d])

theorem exists_trace (E : Nat → Nat → Bool) (i j : Nat) : ∃ s, Trace E i j s := by
  induction i generalizing j with
  | zero =>
    induction j with
    | zero => exact ⟨_, .nil⟩
    | succ j ih => obtain ⟨s, h⟩ := ih; exact ⟨_, .i (by simp) h⟩
  | succ i ihi =>
    induction j with
    | zero => obtain ⟨s, h⟩ := ihi 0; exact ⟨_, .d (by simp) h⟩
    | succ j ihj =>
      rcases cell_cases E i j with ⟨hE, hc⟩ | ⟨-, hc⟩ | ⟨-, hc⟩
      · obtain ⟨s, h⟩ := ihi j; exact ⟨_, .m hE hc h⟩
      · obtain ⟨s, h⟩ := ihj; exact ⟨_, .i hc h⟩
      · obtain ⟨s, h⟩ := ihi (j+1); exact ⟨_, .d hc h⟩

theorem Trace.valid {E i j s} (h : Trace E i j s) :
    Valid E i j s ∧ «matches» s = score E i j := by
  induction h with
  | nil => exact ⟨.nil, by simp⟩
  | m hE hc _ ih => exact ⟨.m ih.1 hE, by simp [ih.2, score, hc]⟩
  | i hc _ ih => exact ⟨.i ih.1, by simpa [«matches», score, hc] using ih.2⟩
  | d hc _ ih => exact ⟨.d ih.1, by simpa [«matches», score, hc] using ih.2⟩

theorem prefixLen_spec (E : Nat → Nat → Bool) (fuel k : Nat) :
    k ≤ prefixLen E fuel k ∧ prefixLen E fuel k ≤ k + fuel ∧
    (∀ x, k ≤ x → x < prefixLen E fuel k → E x x = true) ∧
    (prefixLen E fuel k < k + fuel → E (prefixLen E fuel k) (prefixLen E fuel k) = false) := by
  fun_induction prefixLen E fuel k with
  | case1 k =>
    exact ⟨Nat.le_refl _, Nat.le_refl _, fun x h1 h2 => absurd h2 (Nat.not_lt.2 h1),
      fun h => absurd h (Nat.lt_irrefl _)⟩
  | case2 fuel k h ih =>
    obtain ⟨h1, h2, h3, h4⟩ := ih
    rw [Nat.add_right_comm] at h2 h4
    refine ⟨Nat.le_of_succ_le h1, h2, fun x hx1 hx2 => ?_, h4⟩
    rcases Nat.eq_or_lt_of_le hx1 with rfl | hx
    · exact h
    · exact h3 x hx hx2
  | case3 fuel k h =>
    exact ⟨Nat.le_refl _, Nat.le_add_right _ _, fun x h1 h2 => absurd h2 (Nat.not_lt.2 h1),
      fun _ => by simpa using h⟩

theorem suffixLen_eq_prefixLen (E : Nat → Nat → Bool) (n m fuel k : Nat) :
    suffixLen E n m fuel k = prefixLen (fun a b => E (n-1-a) (m-1-b)) fuel k := by
  induction fuel generalizing k with
  | zero => rfl
  | succ fuel ih => simp only [suffixLen, prefixLen, ih]

theorem suffixLen_spec (E : Nat → Nat → Bool) (n m fuel k : Nat) :
    k ≤ suffixLen E n m fuel k ∧ suffixLen E n m fuel k ≤ k + fuel ∧
    (∀ x, k ≤ x → x < suffixLen E n m fuel k → E (n-1-x) (m-1-x) = true) ∧
    (suffixLen E n m fuel k < k + fuel →
      E (n-1-suffixLen E n m fuel k) (m-1-suffixLen E n m fuel k) = false) := by
  rw [suffixLen_eq_prefixLen]; exact prefixLen_spec _ fuel k

theorem Valid.append {E : Nat → Nat → Bool} {i j k l s t} (hs : Valid E i j s)
    (ht : Valid (fun a b => E (i+a) (j+b)) k l t) : Valid E (i+k) (j+l) (s ++ t) := by
  induction ht with
  | nil => simpa using hs
  | m _ hE ih => rw [← List.append_assoc]; exact .m ih hE
  | i _ ih => rw [← List.append_assoc]; exact .i ih
  | d _ ih => rw [← List.append_assoc]; exact .d ih

theorem Valid.replicate_m {E : Nat → Nat → Bool} (k : Nat) (h : ∀ a, a < k → E a a = true) :
    Valid E k k (List.replicate k .m) := by
  induction k with
  | zero => exact .nil
  | succ k ih =>
    rw [List.replicate_succ']
    exact .m (ih fun a ha => h a (Nat.lt_succ_of_lt ha)) (h k (Nat.lt_succ_self k))

/-- head-first version of `ValidX`: `s` leads from position `(p, q)` to position `(i, j)` -/
inductive SegX (E : Nat → Nat → Bool) : Nat → Nat → Nat → Nat → List Dir → Prop
  | nil {p q} : SegX E p q p q []
  | m {p q i j s} : E p q = true → SegX E (p+1) (q+1) i j s → SegX E p q i j (.m :: s)
  | i {p q i j s} : SegX E p (q+1) i j s → SegX E p q i j (.i :: s)
  | d {p q i j s} : SegX E (p+1) q i j s → SegX E p q i j (.d :: s)
  | x {p q i j s} : SegX E (p+1) (q+1) i j s → SegX E p q i j (.x :: s)

theorem SegX.append {E p q i j k l s t} (h1 : SegX E p q i j s) (h2 : SegX E i j k l t) :
    SegX E p q k l (s ++ t) := by
  induction h1 with
  | nil => simpa using h2
  | m hE _ ih => exact SegX.m hE (ih h2)
  | i _ ih => exact SegX.i (ih h2)
  | d _ ih => exact SegX.d (ih h2)
  | x _ ih => exact SegX.x (ih h2)

theorem SegX.le {E p q i j s} (h : SegX E p q i j s) : p ≤ i ∧ q ≤ j := by
  induction h with
  | nil => exact ⟨Nat.le_refl _, Nat.le_refl _⟩
  | m _ _ ih | x _ ih => exact ⟨Nat.le_of_succ_le ih.1, Nat.le_of_succ_le ih.2⟩
  | i _ ih => exact ⟨ih.1, Nat.le_of_succ_le ih.2⟩
  | d _ ih => exact ⟨Nat.le_of_succ_le ih.1, ih.2⟩

theorem SegX.no_e {E p q i j s} (h : SegX E p q i j s) : Dir.e ∉ s := by
  induction h with
  | nil => simp
  | m _ _ ih => simpa using ih
  | i _ ih => simpa using ih
  | d _ ih => simpa using ih
  | x _ ih => simpa using ih

theorem SegX.toValidX_aux {E p q i j s} (h : SegX E p q i j s) :
    ∀ t, ValidX E p q t → ValidX E i j (t ++ s) := by
  induction h with
  | nil => exact fun t ht => by simpa using ht
  | m hE _ ih => exact fun t ht => by simpa using ih _ (.m ht hE)
  | i _ ih => exact fun t ht => by simpa using ih _ (.i ht)
  | d _ ih => exact fun t ht => by simpa using ih _ (.d ht)
  | x _ ih => exact fun t ht => by simpa using ih _ (.x ht)

theorem validX_iff_segX {E i j s} : ValidX E i j s ↔ SegX E 0 0 i j s := by
  refine ⟨fun h => ?_, fun h => by simpa using h.toValidX_aux [] .nil⟩
  induction h with
  | nil => exact .nil
  | m _ hE ih => exact ih.append (.m hE .nil)
  | i _ ih => exact ih.append (.i .nil)
  | d _ ih => exact ih.append (.d .nil)
  | x _ ih => exact ih.append (.x .nil)

theorem Valid.toValidX {E i j s} (h : Valid E i j s) : ValidX E i j s := by
  induction h with
  | nil => exact ValidX.nil
  | m _ hE ih => exact ValidX.m ih hE
  | i _ ih => exact ValidX.i ih
  | d _ ih => exact ValidX.d ih

abbrev expand (g : List (Dir × Nat)) : List Dir := g.flatMap fun g => List.replicate g.2 g.1

theorem expand_rle (t : List Dir) : expand (rle t) = t := by
  fun_induction rle t with
  | case1 => rfl
  | case2 cs c' k rest h ih => simpa [h, List.replicate_succ] using ih
  | case3 c cs c' k rest h hne ih => simpa [h] using ih
  | case4 c cs h ih => simpa [h] using ih

theorem rle_replicate_m (k : Nat) : rle (List.replicate (k+1) Dir.m) = [(Dir.m, k+1)] := by
  induction k with
  | zero => simp [rle]
  | succ k ih => rw [List.replicate_succ, rle, ih]; simp

theorem addX_replicate_m (k : Nat) : addX (List.replicate k Dir.m) = List.replicate k Dir.m := by
  cases k with
  | zero => simp [addX, rle, addXGroups]
  | succ k => simp [addX, rle_replicate_m, addXGroups]

theorem SegX.d_i_run {E i j r} (k : Nat) : ∀ {p q},
    SegX E p q i j (List.replicate k .d ++ (List.replicate k .i ++ r)) → SegX E (p+k) (q+k) i j r := by
  induction k generalizing r with
  | zero => exact fun h => h
  | succ k ih =>
    intro p q h
    rw [List.replicate_succ, List.replicate_succ', List.append_assoc] at h
    cases h with
    | d h =>
      cases ih h with
      | i h => rwa [Nat.add_right_comm] at h

theorem SegX.x_run {E i j r} (k : Nat) : ∀ {p q},
    SegX E (p+k) (q+k) i j r → SegX E p q i j (List.replicate k .x ++ r) := by
  induction k with
  | zero => exact fun h => h
  | succ k ih =>
    intro p q h
    rw [Nat.add_comm k, ← Nat.add_assoc, ← Nat.add_assoc] at h
    exact .x (ih h)

/-- `t` arises from `s` by relabelling some blocks `d^k i^k` as `x^k`: all that `add_x` does -/
inductive Relabel : List Dir → List Dir → Prop
  | nil : Relabel [] []
  | cons {s t} (c : Dir) : Relabel s t → Relabel (c :: s) (c :: t)
  | block {s t} (k : Nat) : Relabel s t →
      Relabel (List.replicate k .d ++ (List.replicate k .i ++ s)) (List.replicate k .x ++ t)

theorem Relabel.replicate {s t} (c : Dir) (k : Nat) (h : Relabel s t) :
    Relabel (List.replicate k c ++ s) (List.replicate k c ++ t) := by
  induction k with
  | zero => exact h
  | succ k ih => exact .cons c ih

theorem addXGroups_relabel (g : List (Dir × Nat)) : Relabel (expand g) (addXGroups g) := by
  fun_induction addXGroups g with
  | case1 => exact .nil
  | case2 g => simpa using Relabel.replicate g.1 g.2 .nil
  | case3 g ng rest hc ih =>
    simp only [List.flatMap_cons, hc.1, hc.2.1, ← hc.2.2]
    exact .block g.2 ih
  | case4 g ng rest hc ih => exact .replicate g.1 g.2 ih

theorem addX_relabel (t : List Dir) : Relabel t (addX t) := by
  have := addXGroups_relabel (rle t)
  rwa [expand_rle] at this

theorem Relabel.segX {E i j s t} (h : Relabel s t) :
    ∀ {p q}, SegX E p q i j s → SegX E p q i j t := by
  induction h with
  | nil => exact fun h => h
  | cons c _ ih =>
    intro p q h
    cases h with
    | m hE h => exact .m hE (ih h)
    | i h => exact .i (ih h)
    | d h => exact .d (ih h)
    | x h => exact .x (ih h)
  | block k _ ih => exact fun h => .x_run k (ih (.d_i_run k h))

theorem Relabel.matches_eq {s t} (h : Relabel s t) : «matches» t = «matches» s := by
  induction h with
  | nil => rfl
  | cons c _ ih => simpa [«matches», List.count_cons] using ih
  | block k _ ih => simpa [«matches», List.count_replicate] using ih

end ISnap.Align
