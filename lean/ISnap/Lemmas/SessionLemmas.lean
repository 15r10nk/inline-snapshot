import ISnap.Model.Session
/-
  `configure` and `applied` as closed formulas, off which the statements about the session gate are read.
-/
namespace ISnap.Session
open ISnap

/-- the three usage errors of `pytest_configure` -/
def illegal (c : Cfg) : Bool :=
  c.cli.isSome && c.xdist && c.flags.any (· ≠ .disable) || c.flags.any isUnknown
    || c.flags.contains .disable && c.flags.any (· ≠ .disable)

/-- the session gets as far as writing -/
def writes (c : Cfg) : Bool :=
  !illegal c && !(c.xdist || !c.cpython || c.ci) && !c.flags.contains .disable
    && !c.flags.contains .shortReport

theorem ite_ite_same {α : Type} (a b : Bool) (x y : α) :
    (if a then x else if b then x else y) = if (a || b) then x else y := by
  cases a <;> rfl

theorem configure_eq (c : Cfg) :
    configure c =
      if illegal c then .usageError
      else .ok c.flags (!(c.xdist || !c.cpython || c.ci) && !c.flags.contains .disable)
        (if c.xdist || !c.cpython || c.ci then Flags.empty
         else if c.flags.contains .review then Flags.all else catFlags c.flags) := by
  unfold configure illegal
  dsimp only
  rw [ite_ite_same, ite_ite_same]
  refine ite_congr rfl (fun _ => rfl) (fun hi => ?_)
  cases c.xdist || !c.cpython || c.ci
  · cases hr : c.flags.contains .review
    · rfl
    · -- `review` next to `disable` is a usage error, so a legal `review` session is active
      have hn : c.flags.any (· ≠ .disable) = true :=
        List.any_eq_true.2 ⟨.review, by simpa using hr, by decide⟩
      cases hd : c.flags.contains .disable
      · rfl
      · rw [hn, hd] at hi; exact absurd (Bool.or_true _) hi
  · rfl

/-- the test `review ∨ report ∨ k ∈ flags` of the category loop is implied by approval -/
theorem useCat_eq (c : Cfg) (fl : List Flag) (p : Pending) (k : Cat) :
    useCat c fl p k = (p.has k && !(k == .update && c.skipUpdates && !fl.contains (.cat .update)) &&
      p.diff k && approved c fl k) := by
  unfold useCat approved
  cases fl.contains (.cat k) <;> cases fl.contains .review <;>
    simp only [Bool.or_true, Bool.true_or, Bool.and_true, Bool.false_and, Bool.or_false, Bool.and_false,
      Bool.false_or]

theorem applied_has (c : Cfg) (p : Pending) (k : Cat) :
    (applied c p).has k = (writes c && (p.has k && p.diff k && approved c c.flags k &&
       !(k == .update && c.skipUpdates && !c.flags.contains (.cat .update)))) := by
  rw [Bool.and_right_comm (p.has k && p.diff k), Bool.and_right_comm (p.has k), ← useCat_eq]
  unfold applied writes
  -- `configure` and `applied` spell the switched-off test in different orders
  rw [configure_eq, Bool.or_right_comm c.xdist c.ci]
  generalize (c.xdist || !c.cpython || c.ci) = o
  cases illegal c
  · simp only [Bool.false_eq_true, if_false]
    cases o <;> cases c.flags.contains .disable <;> cases c.flags.contains .shortReport <;>
      first | exact Flags.has_empty k | (cases k <;> rfl)
  · exact Flags.has_empty k

theorem appliedInline_has (fl : List Flag) (p : Pending) (k : Cat) :
    (appliedInline fl p).has k = (p.has k && fl.contains (.cat k)) := by
  cases k <;> rfl

/-- outside review mode a session that writes applies what `Example.run_inline` applies with the same flags -/
theorem applied_eq_inline (c : Cfg) (p : Pending) (hw : writes c = true)
    (hrev : c.flags.contains .review = false) (hskip : c.skipUpdates = false)
    (hdiff : ∀ k, p.has k = true → p.diff k = true) : applied c p = appliedInline c.flags p := by
  apply Flags.ext_has
  intro k
  rw [applied_has, appliedInline_has, hw, approved, hrev, hskip]
  cases h : p.has k
  · rfl
  · simp [hdiff k h]

end ISnap.Session
