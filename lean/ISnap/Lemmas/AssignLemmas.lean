import ISnap.Lemmas.AssignCore
import ISnap.Lemmas.Ite
/-
  The theorems about `assign` / `run` / `cats` / `merged` behind the properties C02, C08, C09, C10, C11b, each
  proved through `assign_cases` / `assign_induct`: a node kept or regenerated as a whole, a fact about the walk
  over a list / tuple display, and the entries of a dict display.  C08 and C09 rest on `rerun_gen` (a second run
  writes what one run with both approved sets writes, and reports `update` if it was left unapproved) and
  on `pending_fix` (what it reports for `fix` follows from the values alone).
-/
namespace ISnap.Assign
open ISnap ISnap.Align List

theorem seq_indep {F F' : Flags} {I D sc es ns}
    (hw : Walk (fun e n => (assign F e n).cats = (assign F' e n).cats ∧
      (assign F e n).merged = (assign F' e n).merged) I D sc es ns) :
    (assignSeq F sc es ns).1 = (assignSeq F' sc es ns).1 ∧
    (assignSeq F sc es ns).2.1 = (assignSeq F' sc es ns).2.1 := by
  induction hw with
  | nil => simp
  | pair hc h1 _ h2 => simp only [assignSeq_pair hc, h1.1, h1.2, h2.1, h2.2, and_self]
  | i _ _ h2 => simp only [assignSeq_i, h2.1, h2.2, and_self]
  | d _ _ h2 => simp only [assignSeq_d, h2.1, h2.2, and_self]

theorem indep_gen (F F' : Flags) : ∀ e n, (assign F e n).cats = (assign F' e n).cats ∧
    (assign F e n).merged = (assign F' e n).merged := by
  apply assign_cases
  case kept => intro e n _ h; simp only [h, and_self]
  case regen => intro e n c _ h; simp only [h, and_self]
  case seq =>
    intro tup es ns sc _ hw h
    have := seq_indep hw
    simp only [h, this.1, this.2, and_self]
  case dict =>
    intro es news ih h
    have h1 : ∀ p ∈ es, oldCats F news p = oldCats F' news p := fun p hp => by
      cases hl : lookupA p.1 news with
      | none => rw [oldCats_of_none hl, oldCats_of_none hl]
      | some n => rw [oldCats_of_some hl, oldCats_of_some hl, (ih p hp n).1]
    have h2 : ∀ p ∈ es, oldMerged F news p = oldMerged F' news p := by
      intro p hp; unfold oldMerged
      cases lookupA p.1 news with
      | none => rfl
      | some n => simp only [Option.map, (ih p hp n).2]
    simp only [h, dictOut_cats, dictOut_merged, map_congr_left h1, map_congr_left h2, and_self]

theorem seq_has {F : Flags} {c : Cat} (hf : (Flags.single .fix).has c = false) {I D sc es ns}
    (hw : Walk (fun e n => (assign F e n).cats.has c = false) I D sc es ns) :
    (assignSeq F sc es ns).1.has c = false := by
  induction hw with
  | nil => rw [assignSeq_nil]; exact Flags.has_empty c
  | pair hc hp _ ih => rw [assignSeq_pair hc, unionCats, Flags.has_union, hp, ih]; rfl
  | i _ _ ih => rw [assignSeq_i, unionCats, Flags.has_union, hf, ih]; rfl
  | d _ _ ih => rw [assignSeq_d, unionCats, Flags.has_union, hf, ih]; rfl

/-- `fix` and `update` are the only categories that `assign` itself reports (`leafOut`, insertions and deletions) -/
theorem cats_has (F : Flags) {c : Cat} (hf : (Flags.single .fix).has c = false)
    (hu : (Flags.single .update).has c = false) : ∀ e n, (assign F e n).cats.has c = false := by
  apply assign_cases
  case kept => intro e n _ h; rw [h]; exact Flags.has_empty c
  case regen =>
    intro e n c' hc h; rw [h]
    rcases hc with ⟨rfl, _⟩ | ⟨rfl, _⟩
    · exact hf
    · exact hu
  case seq => intro tup es ns sc _ hw h; rw [h]; exact seq_has hf hw
  case dict =>
    intro es news ih h
    rw [h, dictOut_has, hf, Bool.and_false, Bool.or_false, any_eq_false]
    intro p hp
    cases hl : lookupA p.1 news with
    | none => rw [oldCats_of_none hl, hf]; exact Bool.false_ne_true
    | some n => rw [oldCats_of_some hl, ih p hp]; exact Bool.false_ne_true

theorem cats_create_trim (F : Flags) (e : Expr) (n : Val) :
    (assign F e n).cats.create = false ∧ (assign F e n).cats.trim = false :=
  ⟨cats_has F (c := .create) rfl rfl e n, cats_has F (c := .trim) rfl rfl e n⟩

theorem seq_merged {F : Flags} {D sc es ns}
    (hw : Walk (fun e n => pyEq (assign F e n).merged n = true) (fun n => gv n = true) D sc es ns) :
    pyEq.eqL (assignSeq F sc es ns).2.1 ns = true := by
  induction hw with
  | nil => simp
  | pair hc hp _ ih => rw [assignSeq_pair hc, eqL_cons_cons, Bool.and_eq_true]; exact ⟨hp, ih⟩
  | i hn _ ih => rw [assignSeq_i, eqL_cons_cons, Bool.and_eq_true]; exact ⟨pyEq_refl _ hn, ih⟩
  | d _ _ ih => rw [assignSeq_d]; exact ih

theorem merged_eq_gen (F : Flags) : ∀ e, ge e = true → ∀ n, gv n = true →
    pyEq (assign F e n).merged n = true := by
  apply assign_induct
  case kept => intro e n _ _ heq h; rw [h]; exact heq
  case regen => intro e n c _ hn _ h; rw [h]; exact pyEq_refl n hn
  case seq => intro tup es ns sc _ _ _ hw h; rw [h, pyEq_seqV_seqV]; exact seq_merged hw
  case dict =>
    intro es news _ _ hdk hgv ih h
    simp only [h, dictOut_merged, pyEq_dict_dict, length_map, beq_self_eq_true, Bool.true_and, eqD_iff, mem_map]
    rintro _ ⟨kn, hkn, rfl⟩
    have hl : lookupA kn.1 news = some kn.2 := lookupA_self hdk hkn
    split
    · rename_i m hm
      refine ⟨kn.2, hl, ?_⟩
      -- the old entry found under the key of `kn` was compared with the value of `kn`
      obtain ⟨k', hmem, hk⟩ := lookupA_mem hm
      obtain ⟨q, hq, hqe⟩ := mem_map.1 hmem
      simp only [oldMerged, Prod.mk.injEq] at hqe
      obtain ⟨rfl, hqm⟩ := hqe
      rw [← lookupA_congr hk, hl] at hqm
      cases hqm
      exact ih q hq _ (by rw [← lookupA_congr hk]; exact hl)
    · exact ⟨kn.2, hl, pyEq_refl _ (hgv _ hkn)⟩

theorem seq_ge {F : Flags} {sc es ns}
    (hw : Walk (fun e n => ge (assign F e n).expr = true) (fun n => gv n = true) (fun e => ge e = true)
      sc es ns) : ∀ e' ∈ (assignSeq F sc es ns).2.2, ge e' = true := by
  induction hw with
  | nil => simp
  | pair hc hp _ ih => rw [assignSeq_pair hc]; exact forall_mem_cons.2 ⟨hp, ih⟩
  | i hn _ ih =>
    rw [assignSeq_i]
    split
    · exact forall_mem_cons.2 ⟨ge_canon _ hn, ih⟩
    · exact ih
  | d he _ ih =>
    rw [assignSeq_d]
    split
    · exact ih
    · exact forall_mem_cons.2 ⟨he, ih⟩

theorem ge_run_gen (F : Flags) : ∀ e, ge e = true → ∀ n, gv n = true →
    ge (assign F e n).expr = true := by
  apply assign_induct
  case kept => intro e n he _ _ h; rw [h]; exact he
  case regen =>
    intro e n c he hn _ h; rw [h]
    exact ite_elim (P := fun x => ge x = true) (fun _ => ge_canon n hn) (fun _ => he)
  case seq =>
    intro tup es ns sc _ _ _ hw h
    rw [h, ge_seq]
    exact seq_ge hw
  case dict =>
    intro es news hde hes hdk hgv ih h
    simp only [h, dictOut_expr, ge_dict]
    constructor
    · cases hF : F.fix with
      | false => rw [entries_nofix hF]; exact dkeys_keptL hde
      | true => rw [dkeys_perm (entries_perm hF es hdk)]; exact dkeys_kept_new hde hdk
    · exact forall_mem_entries hdk ih (fun _ p hp _ => hes p hp) (fun _ kv hkv _ => ge_canon _ (hgv _ hkv))

theorem seq_fix {F : Flags} (hF : F.fix = true) {D sc es ns}
    (hw : Walk (fun e n => pyEq (eval (assign F e n).expr) n = true) (fun n => gv n = true) D sc es ns) :
    pyEq.eqL ((assignSeq F sc es ns).2.2.map eval) ns = true := by
  induction hw with
  | nil => simp
  | pair hc hp _ ih => rw [assignSeq_pair hc, map_cons, eqL_cons_cons, Bool.and_eq_true]; exact ⟨hp, ih⟩
  | i hn _ ih =>
    rw [assignSeq_i, if_pos hF, map_cons, eqL_cons_cons, Bool.and_eq_true, eval_canon_any]
    exact ⟨pyEq_refl _ hn, ih⟩
  | d _ _ ih => rw [assignSeq_d, if_pos hF]; exact ih

theorem entries_keys {F : Flags} (hF : F.fix = true) {es : List (Atom × Expr)}
    {news : List (Atom × Val)} (hd : dkeys news = true) :
    ∀ kv ∈ news, hasKey kv.1 (entries F es news) = true := by
  intro kv hkv
  rw [hasKey_perm (entries_perm hF es hd)]
  cases hh : hasKey kv.1 es with
  | false =>
    exact hasKey_iff.2 ⟨(kv.1, canon kv.2),
      mem_append.2 (.inr (mem_newEntries.2 ⟨kv, hkv, hh, rfl⟩)), atomEq_refl _⟩
  | true =>
    obtain ⟨p, hp', hk⟩ := hasKey_iff.1 hh
    have : hasKey p.1 news = true := hasKey_iff.2 ⟨kv, hkv, by rw [atomEq_symm]; exact hk⟩
    rw [← lookupA_isSome] at this
    cases hl : lookupA p.1 news with
    | none => simp [hl] at this
    | some n' =>
      exact hasKey_iff.2 ⟨(p.1, (assign F p.2 n').expr),
        mem_append.2 (.inl (mem_filterMap.2 ⟨p, hp', keptE_of_some hl⟩)), hk⟩

theorem fix_repairs_gen (F : Flags) (hF : F.fix = true) : ∀ e, ge e = true → ∀ n, gv n = true →
    pyEq (eval (assign F e n).expr) n = true := by
  apply assign_induct
  case kept => intro e n _ _ heq h; rw [h]; exact heq
  case regen =>
    intro e n c _ hn hc h; rw [h]
    refine ite_elim (P := fun x => pyEq (eval x) n = true)
      (fun _ => by rw [eval_canon_any]; exact pyEq_refl n hn) fun hno => ?_
    -- the node was left: then the category was `update`, reported for equal values
    rcases hc with ⟨rfl, _⟩ | ⟨_, heq⟩
    · exact absurd hF hno
    · exact heq
  case seq =>
    intro tup es ns sc hes hns _ hw h
    have hge := ge_run_gen F _ ((ge_seq (t := tup)).2 hes) _ ((gv_seqV (t := tup)).2 hns)
    rw [h, ge_seq] at hge
    rw [h, eval_seq, evalL_ge hge, pyEq_seqV_seqV]
    exact seq_fix hF hw
  case dict =>
    intro es news hde hes hdk hgv ih h
    have hge := ge_run_gen F _ (ge_dict.2 ⟨hde, hes⟩) _ (gv_dict.2 ⟨hdk, hgv⟩)
    simp only [h, dictOut_expr, ge_dict] at hge
    rw [h, dictOut_expr, pyEq_eval_dict hge.1 hge.2 hdk]
    refine ⟨entries_keys hF hdk, ?_⟩
    exact forall_mem_entries hdk (fun p hp n hl => ⟨n, hl, ih p hp n hl⟩) (fun h => by rw [hF] at h; cases h)
      fun _ kv hkv _ => ⟨kv.2, lookupA_self hdk hkv, by rw [eval_canon_any]; exact pyEq_refl _ (hgv _ hkv)⟩

/-- no `fix` for a display: the script only pairs elements, and paired elements are equal -/
theorem seq_nofix_iff {F : Flags} {I D sc es ns}
    (hw : Walk (fun e n => (assign F e n).cats.fix = false ↔ pyEq (eval e) n = true) I D sc es ns) :
    (assignSeq F sc es ns).1.fix = false ↔
      (∀ c ∈ sc, c = Dir.m ∨ c = Dir.x) ∧ pyEq.eqL (es.map eval) ns = true := by
  induction hw with
  | nil => simp
  | pair hc hp _ ih =>
    rw [assignSeq_pair hc, unionCats_fix, Bool.or_eq_false_iff, hp, ih, map_cons, eqL_cons_cons,
      Bool.and_eq_true, forall_mem_cons]
    simp only [hc, true_and, and_left_comm]
  | i _ _ _ => simp [assignSeq_i]
  | d _ _ _ => simp [assignSeq_d]

theorem nofix_iff_eq (F : Flags) : ∀ e, ge e = true → ∀ n, gv n = true →
    ((assign F e n).cats.fix = false ↔ pyEq (eval e) n = true) := by
  apply assign_induct
  case kept => intro e n _ _ heq h; simp [h, heq]
  case regen => intro e n c _ _ hc h; rcases hc with ⟨rfl, heq⟩ | ⟨rfl, heq⟩ <;> simp [h, heq]
  case seq =>
    intro tup es ns sc hes _ hsc hw h
    rw [h, eval_seq, evalL_ge hes, pyEq_seqV_seqV, seq_nofix_iff hw]
    refine ⟨fun h => h.2, fun hL => ⟨?_, hL⟩⟩
    rw [hsc, script_of_eqL hL]
    exact fun c hc => .inl (eq_of_mem_replicate hc)
  case dict =>
    intro es news hde hes hdk hgv ih h
    rw [h, dictOut_fix, pyEq_eval_dict hde hes hdk, Bool.or_eq_false_iff, any_eq_false, any_eq_false, and_comm]
    refine and_congr (forall₂_congr fun kv _ => by simp) (forall₂_congr fun p hp => ?_)
    cases hl : lookupA p.1 news with
    | none => simp [oldCats_of_none hl]
    | some w => simp [oldCats_of_some hl, ih p hp w hl]

theorem nofix_of_eq (F : Flags) (e : Expr) (he : ge e = true) (n : Val) (hn : gv n = true)
    (h : pyEq (eval e) n = true) : (assign F e n).cats.fix = false :=
  (nofix_iff_eq F e he n hn).2 h

theorem seq_disjoint {F : Flags} {I D sc es ns}
    (hw : Walk (fun e n => ((assign F e n).cats.fix && F.fix) = false →
      ((assign F e n).cats.update && F.update) = false → (assign F e n).expr = e) I D sc es ns)
    (h1 : ((assignSeq F sc es ns).1.fix && F.fix) = false)
    (h2 : ((assignSeq F sc es ns).1.update && F.update) = false) : (assignSeq F sc es ns).2.2 = es := by
  induction hw with
  | nil => simp
  | pair hc hp _ ih =>
    rw [assignSeq_pair hc] at h1 h2 ⊢
    simp only [unionCats_fix, unionCats_update, Bool.and_or_distrib_right, Bool.or_eq_false_iff] at h1 h2
    rw [hp h1.1 h2.1, ih h1.2 h2.2]
  | i _ _ ih =>
    rw [assignSeq_i] at h1 h2 ⊢
    simp only [unionCats_fix, unionCats_update, single_fix_fix, single_fix_update, Bool.true_or,
      Bool.true_and, Bool.false_or] at h1 h2
    simp only [h1, Bool.false_eq_true, ↓reduceIte]
    exact ih (by simp [h1]) h2
  | d _ _ ih =>
    rw [assignSeq_d] at h1 h2 ⊢
    simp only [unionCats_fix, unionCats_update, single_fix_fix, single_fix_update, Bool.true_or,
      Bool.true_and, Bool.false_or] at h1 h2
    simp only [h1, Bool.false_eq_true, ↓reduceIte, cons.injEq, true_and]
    exact ih (by simp [h1]) h2

/-- a run that approves none of the reported categories leaves the expression alone (any expression) -/
theorem run_disjoint (F : Flags) : ∀ e n, ((assign F e n).cats.fix && F.fix) = false →
    ((assign F e n).cats.update && F.update) = false → (assign F e n).expr = e := by
  apply assign_cases
  case kept => intro e n _ h _ _; rw [h]
  case regen =>
    intro e n c hc h h1 h2; rw [h] at h1 h2 ⊢
    rcases hc with ⟨rfl, _⟩ | ⟨rfl, _⟩
    · exact if_neg (by simpa [Flags.has] using h1)
    · exact if_neg (by simpa [Flags.has] using h2)
  case seq =>
    intro tup es ns sc _ hw h h1 h2
    rw [h] at h1 h2 ⊢
    simp only at h1 h2 ⊢
    rw [seq_disjoint hw h1 h2]
  case dict =>
    intro es news ih h h1 h2
    rw [h, dictOut_fix, Bool.and_or_distrib_right, Bool.or_eq_false_iff, and_any_distrib_right,
      and_any_distrib_right, any_eq_false, any_eq_false] at h1
    rw [h, dictOut_update, and_any_distrib_right, any_eq_false] at h2
    rw [h, dictOut_expr]
    have hkept : keptL F es news = es := Weave.filterMap_fixed fun p hp => by
      have hf := h1.1 p hp
      have hu := h2 p hp
      cases hl : lookupA p.1 news with
      | none =>
        rw [oldCats_of_none hl] at hf
        rw [keptE_of_none hl, if_neg (by simpa using hf)]
      | some n' =>
        rw [oldCats_of_some hl] at hf hu
        rw [keptE_of_some hl, ih p hp n' (by simpa using hf) (by simpa using hu)]
    cases hF : F.fix with
    | false => rw [entries_nofix hF, hkept]
    | true => rw [entries_no_new (fun kv hkv => by simpa [hF] using h1.2 kv hkv), hkept]

/-- equal value and `update` not approved: the expression is untouched at every depth -/
theorem equal_kept_gen (F : Flags) (hu : F.update = false) (e : Expr) (he : ge e = true) (n : Val)
    (hn : gv n = true) (heq : pyEq (eval e) n = true) : (assign F e n).expr = e :=
  run_disjoint F e n (by rw [nofix_of_eq F e he n hn heq]; rfl) (by rw [hu]; simp)

theorem seq_keep {F : Flags} (hF : F.fix = false) {I sc es ns}
    (hw : Walk (fun e n => pyEq (eval e) (eval (assign F e n).expr) = true) I (fun e => ge e = true)
      sc es ns) : pyEq.eqL (es.map eval) ((assignSeq F sc es ns).2.2.map eval) = true := by
  induction hw with
  | nil => simp
  | pair hc hp _ ih =>
    rw [assignSeq_pair hc, map_cons, map_cons, eqL_cons_cons, Bool.and_eq_true]; exact ⟨hp, ih⟩
  | i _ _ ih => rw [assignSeq_i, if_neg (by simp [hF])]; exact ih
  | d he _ ih =>
    rw [assignSeq_d, if_neg (by simp [hF]), map_cons, map_cons, eqL_cons_cons, Bool.and_eq_true]
    exact ⟨pyEq_refl _ (gv_eval _ he), ih⟩

/-- old entry with its expression after the run (when it stays) -/
def updE (F : Flags) (news : List (Atom × Val)) (p : Atom × Expr) : Atom × Expr :=
  match lookupA p.1 news with
  | none => p
  | some n => (p.1, (assign F p.2 n).expr)

theorem updE_of_none {F news p} (h : lookupA p.1 news = none) : updE F news p = p := by
  unfold updE; rw [h]
theorem updE_of_some {F news p n} (h : lookupA p.1 news = some n) :
    updE F news p = (p.1, (assign F p.2 n).expr) := by
  unfold updE; rw [h]

@[simp] theorem updE_fst (F news p) : (updE F news p).1 = p.1 := by
  cases hl : lookupA p.1 news with
  | none => rw [updE_of_none hl]
  | some n => rw [updE_of_some hl]

theorem keptE_nofix {F : Flags} (hF : F.fix = false) (news : List (Atom × Val)) (p : Atom × Expr) :
    keptE F news p = some (updE F news p) := by
  cases hl : lookupA p.1 news with
  | none => rw [keptE_of_none hl, updE_of_none hl, hF]; rfl
  | some n => rw [keptE_of_some hl, updE_of_some hl]

theorem keptL_eq_map {F : Flags} (hF : F.fix = false) (es : List (Atom × Expr)) (news : List (Atom × Val)) :
    keptL F es news = es.map (updE F news) := by
  rw [keptL, ← filterMap_eq_map']
  exact filterMap_congr_mem fun p _ => keptE_nofix hF news p

theorem keep_gen (F : Flags) (hF : F.fix = false) : ∀ e, ge e = true → ∀ n, gv n = true →
    pyEq (eval e) (eval (assign F e n).expr) = true := by
  apply assign_induct
  case kept => intro e n he _ _ h; rw [h]; exact pyEq_refl _ (gv_eval e he)
  case regen =>
    intro e n c he _ hc h; rw [h]
    refine ite_elim (P := fun x => pyEq (eval e) (eval x) = true) (fun hyes => ?_)
      fun _ => pyEq_refl _ (gv_eval e he)
    -- the node was regenerated: then the category was `update`, reported for equal values
    rcases hc with ⟨rfl, _⟩ | ⟨_, heq⟩
    · exact absurd hyes (by simp [Flags.has, hF])
    · rw [eval_canon_any]; exact heq
  case seq =>
    intro tup es ns sc hes hns _ hw h
    have hge := ge_run_gen F _ ((ge_seq (t := tup)).2 hes) _ ((gv_seqV (t := tup)).2 hns)
    rw [h, ge_seq] at hge
    rw [h, eval_seq, eval_seq, evalL_ge hes, evalL_ge hge, pyEq_seqV_seqV]
    exact seq_keep hF hw
  case dict =>
    intro es news hde hes hdk hgv ih h
    have hge := ge_run_gen F _ (ge_dict.2 ⟨hde, hes⟩) _ (gv_dict.2 ⟨hdk, hgv⟩)
    simp only [h, dictOut_expr, entries_nofix hF, keptL_eq_map hF, ge_dict] at hge
    simp only [h, dictOut_expr, entries_nofix hF, keptL_eq_map hF, eval_dict, evalD_ge hes, evalD_ge hge.2,
      pyEq_dict_dict, length_map, beq_self_eq_true, Bool.true_and, eqD_iff, mem_map]
    rintro _ ⟨p, hp, rfl⟩
    refine ⟨eval (updE F news p).2, ?_, ?_⟩
    · apply lookupA_self
      · rw [dkeys_map _ (fun p => (p.1, eval p.2)) (fun _ => rfl)]; exact hge.1
      · simp only [map_map, mem_map, Function.comp]
        exact ⟨p, hp, by simp⟩
    · cases hl : lookupA p.1 news with
      | none => rw [updE_of_none hl]; exact pyEq_refl _ (gv_eval _ (hes p hp))
      | some n' => rw [updE_of_some hl]; exact ih p hp n' hl

theorem seq_m_noupdate {F : Flags} : ∀ (ns : List Val),
    (∀ n ∈ ns, (assign F (canon n) n).cats.update = false) →
    (assignSeq F (replicate ns.length Dir.m) (ns.map canon) ns).1.update = false := by
  intro ns
  induction ns with
  | nil => intro _; simp
  | cons n ns ih =>
    intro h
    simp only [length_cons, replicate_succ, map_cons, assignSeq_m, unionCats_update, Bool.or_eq_false_iff]
    exact ⟨h n (by simp), ih fun n hn => h n (by simp [hn])⟩

theorem canon_noupdate (F : Flags) : ∀ n, gv n = true → (assign F (canon n) n).cats.update = false := by
  apply gv_ind
  case atom =>
    intro a
    rw [canon_atom, assign_leaf (by simp)]
    simp [leafOut, atomEq_refl, same]
  case seq =>
    intro t xs h ih
    have hc := ge_canon (seqV t xs) (gv_seqV.2 h)
    simp only [canon_seqV, ge_seq] at hc
    have hev : (xs.map canon).map eval = xs := by rw [map_map]; exact map_id'' eval_canon_any xs
    have hrefl : pyEq.eqL xs xs = true := eqL_iff.2 ⟨rfl, fun i h1 _ => pyEq_refl _ (h _ (getElem_mem h1))⟩
    rw [canon_seqV, assign_seq_good hc, hev, script_of_eqL hrefl]
    exact seq_m_noupdate xs ih
  case dict =>
    intro kvs hd h ih
    have hc := ge_canon _ (gv_dict.2 ⟨hd, h⟩)
    simp only [canon_dict, ge_dict] at hc
    rw [canon_dict, assign_dict_good hc.2, dictOut_update]
    simp only [any_map, any_eq_false, Function.comp, Bool.not_eq_true]
    intro p hp
    rw [oldCats_of_some (lookupA_self hd hp)]
    exact ih p hp

theorem canon_cats (F : Flags) (n : Val) (hn : gv n = true) :
    (assign F (canon n) n).cats = Flags.empty := by
  obtain ⟨h1, h3⟩ := cats_create_trim F (canon n) n
  exact flags_eq_empty h1
    (nofix_of_eq F _ (ge_canon n hn) n hn (by rw [eval_canon_any]; exact pyEq_refl n hn)) h3
    (canon_noupdate F n hn)

theorem canon_run (F : Flags) (n : Val) (hn : gv n = true) : (assign F (canon n) n).expr = canon n :=
  run_disjoint F _ _ (by rw [canon_cats F n hn]; rfl) (by rw [canon_cats F n hn]; rfl)

/-- what a second run reports for `fix` follows from the values: approving `fix` made the value equal to `n`,
    not approving it left the value as it was -/
theorem pending_fix (F F' : Flags) (e : Expr) (he : ge e = true) (n : Val) (hn : gv n = true) :
    (assign F' (assign F e n).expr n).cats.fix = ((assign F' e n).cats.fix && !F.fix) := by
  have hge := ge_run_gen F e he n hn
  cases hF : F.fix with
  | true => rw [nofix_of_eq F' _ hge n hn (fix_repairs_gen F hF e he n hn)]; simp
  | false =>
    rw [Bool.not_false, Bool.and_true, Bool.eq_iff_iff, ← Bool.not_eq_false, ← Bool.not_eq_false,
      nofix_iff_eq F' e he n hn, nofix_iff_eq F' _ hge n hn,
      pyEq_congr_left (gv_eval e he) (gv_eval _ hge) (keep_gen F hF e he n hn) n]

/-- the second of two runs, at one node: it reports `update` if that was reported and not approved, and writes
    what one run with both approved sets writes -/
def Rerun (F₁ F₂ : Flags) (e : Expr) (n : Val) : Prop :=
  (assign F₂ (assign F₁ e n).expr n).cats.update = ((assign F₂ e n).cats.update && !F₁.update) ∧
  (assign F₂ (assign F₁ e n).expr n).expr = (assign (F₁.union F₂) e n).expr

/-- `fix` was not approved: the display keeps its elements, the script of the second run is the first one -/
theorem seq_rerun_nofix {F₁ F₂ : Flags} (hF : F₁.fix = false) {I D sc es ns}
    (hw : Walk (Rerun F₁ F₂) I D sc es ns) :
    (assignSeq F₂ sc (assignSeq F₁ sc es ns).2.2 ns).1.update =
      ((assignSeq F₂ sc es ns).1.update && !F₁.update) ∧
    (assignSeq F₂ sc (assignSeq F₁ sc es ns).2.2 ns).2.2 = (assignSeq (F₁.union F₂) sc es ns).2.2 := by
  induction hw with
  | nil => simp
  | pair hc hp _ ih => simp [assignSeq_pair hc, hp.1, hp.2, ih.1, ih.2, Bool.and_or_distrib_right]
  | i _ _ ih => simp [assignSeq_i, hF, ih.1, ih.2]
  | d _ _ ih => simp [assignSeq_d, hF, ih.1, ih.2]

/-- `fix` was approved: the display has one element per new value, the script of the second run is all `m` -/
theorem seq_rerun_fix {F₁ F₂ : Flags} (hF : F₁.fix = true) {D sc es ns}
    (hw : Walk (Rerun F₁ F₂) (fun n => gv n = true) D sc es ns) :
    (assignSeq F₂ (replicate (assignSeq F₁ sc es ns).2.2.length Dir.m) (assignSeq F₁ sc es ns).2.2 ns).1.update =
      ((assignSeq F₂ sc es ns).1.update && !F₁.update) ∧
    (assignSeq F₂ (replicate (assignSeq F₁ sc es ns).2.2.length Dir.m) (assignSeq F₁ sc es ns).2.2 ns).2.2
      = (assignSeq (F₁.union F₂) sc es ns).2.2 := by
  induction hw with
  | nil => simp
  | pair hc hp _ ih =>
    simp [assignSeq_pair hc, replicate_succ, assignSeq_m, hp.1, hp.2, ih.1, ih.2, Bool.and_or_distrib_right]
  | i hn _ ih =>
    simp [assignSeq_i, hF, replicate_succ, assignSeq_m, canon_run F₂ _ hn, canon_cats F₂ _ hn, ih.1, ih.2]
  | d _ _ ih => simp [assignSeq_d, hF, ih.1, ih.2]

/-- `Rerun` for one old entry of a dict display: what the second run reports for what the first run left of
    the entry, and what it leaves of it -/
theorem entry_rerun {F₁ F₂ : Flags} {news : List (Atom × Val)} {p : Atom × Expr}
    (ih : ∀ n, lookupA p.1 news = some n → Rerun F₁ F₂ p.2 n) :
    ((keptE F₁ news p).any fun q => (oldCats F₂ news q).update) = ((oldCats F₂ news p).update && !F₁.update) ∧
    (keptE F₁ news p).bind (keptE F₂ news) = keptE (F₁.union F₂) news p := by
  cases hl : lookupA p.1 news with
  | none =>
    -- deleted by the first run, or still there and without a value
    rw [keptE_of_none hl, keptE_of_none hl, oldCats_of_none hl]
    cases h1 : F₁.fix <;> simp [keptE_of_none hl, oldCats_of_none hl, h1]
  | some n =>
    -- still there under its key, with the expression the first run wrote
    have hl' : lookupA (p.1, (assign F₁ p.2 n).expr).1 news = some n := hl
    rw [keptE_of_some hl, keptE_of_some hl, oldCats_of_some hl]
    simp [keptE_of_some hl', oldCats_of_some hl', (ih n hl).1, (ih n hl).2]

theorem rerun_gen (F₁ F₂ : Flags) : ∀ e, ge e = true → ∀ n, gv n = true → Rerun F₁ F₂ e n := by
  apply assign_induct
  case kept => intro e n _ _ _ h; simp [Rerun, h]
  case regen =>
    intro e n c _ hn hc h
    -- the first run either regenerated the node (then it is settled) or left it (then the second run is the first)
    -- (`h` is restated with the field: `simp` rewrites the test `F.has c` but not the instance that decides it)
    rcases hc with ⟨rfl, _⟩ | ⟨rfl, _⟩
    · replace h : ∀ F : Flags, assign F e n = ⟨Flags.single .fix, n, if F.fix then canon n else e⟩ := h
      cases hf : F₁.fix
      · simp [Rerun, h, hf]
      · simp [Rerun, h, hf, canon_cats _ _ hn, canon_run _ _ hn]
    · replace h : ∀ F : Flags, assign F e n = ⟨Flags.single .update, n, if F.update then canon n else e⟩ := h
      cases hu : F₁.update
      · simp [Rerun, h, hu]
      · simp [Rerun, h, hu, canon_cats _ _ hn, canon_run _ _ hn]
  case seq =>
    intro tup es ns sc hes hns hsc hw h
    have hge := ge_run_gen F₁ _ ((ge_seq (t := tup)).2 hes) _ ((gv_seqV (t := tup)).2 hns)
    rw [h, ge_seq] at hge
    unfold Rerun
    rw [h F₁, h F₂, h (F₁.union F₂)]
    simp only
    rw [assign_seq_good hge]
    cases hF : F₁.fix with
    | false =>
      have hk := seq_keep hF (hw.imp_mem (fun e he n hn _ => keep_gen F₁ hF e (hes e he) n (hns n hn))
        (fun _ _ => id) (fun _ _ => id))
      rw [← script_congr hk hes hge, ← hsc]
      obtain ⟨r, e⟩ := seq_rerun_nofix hF hw
      exact ⟨r, by rw [e]⟩
    | true =>
      have hk := seq_fix hF (hw.imp_mem (fun e he n hn _ => fix_repairs_gen F₁ hF e (hes e he) n (hns n hn))
        (fun _ _ => id) (fun _ _ => id))
      rw [script_of_eqL hk, length_map]
      obtain ⟨r, e⟩ := seq_rerun_fix hF hw
      exact ⟨r, by rw [e]⟩
  case dict =>
    intro es news hde hes hdk hgv ih h
    have hge := ge_run_gen F₁ _ (ge_dict.2 ⟨hde, hes⟩) _ (gv_dict.2 ⟨hdk, hgv⟩)
    unfold Rerun
    rw [h F₁, dictOut_expr] at hge ⊢
    rw [h F₂, h (F₁.union F₂), assign_dict_good (ge_dict.1 hge).2, dictOut_expr, dictOut_expr]
    have hent := fun p hp => entry_rerun (F₁ := F₁) (F₂ := F₂) (ih p hp)
    cases hF : F₁.fix with
    | false =>
      -- the old entries are still there, each after its own first run
      rw [entries_nofix hF, keptL_eq_map hF]
      refine ⟨?_, congrArg Expr.dict (entries_congr (by rw [union_fix, hF, Bool.false_or]) ?_ ?_)⟩
      · rw [dictOut_update, dictOut_update, any_map, and_any_distrib_right]
        exact any_congr_mem fun p hp => by have := (hent p hp).1; rwa [keptE_nofix hF] at this
      · rw [map_map]
        exact map_congr_left fun p hp => by have := (hent p hp).2; rwa [keptE_nofix hF] at this
      · rw [map_map]
        exact map_congr_left fun p _ => updE_fst F₁ news p
    | true =>
      -- the entries written for new keys are settled
      have hnew : ∀ q ∈ newEntries es news,
          (oldCats F₂ news q).update = false ∧ keptE F₂ news q = some q := by
        intro q hq
        obtain ⟨kv, hkv, _, rfl⟩ := mem_newEntries.1 hq
        have hl : lookupA (kv.1, canon kv.2).1 news = some kv.2 := lookupA_self hdk hkv
        rw [oldCats_of_some hl, keptE_of_some hl, canon_cats F₂ _ (hgv _ hkv), canon_run F₂ _ (hgv _ hkv)]
        exact ⟨rfl, rfl⟩
      refine ⟨?_, ?_⟩
      · rw [dictOut_update, dictOut_update, and_any_distrib_right, (entries_perm hF es hdk).any_eq, any_append,
          keptL, any_filterMap, (any_eq_false (l := newEntries es news)).2 fun q hq => by simp [(hnew q hq).1],
          Bool.or_false]
        exact any_congr_mem fun p hp => (hent p hp).1
      · -- every key of the new value is there already: the second run filters the woven list, entry by entry
        rw [entries_no_new (entries_keys hF hdk), entries_fix hF, entries_fix (by rw [union_fix, hF]; rfl), keptL,
          weave_filterMap _ _ _ (fun q hq => (hnew q (allIns_dictInserts es news ▸ hq)).2), map_map]
        exact congrArg (fun K => Expr.dict (weave K _ 0)) (map_congr_left fun p hp => (hent p hp).2)

theorem compose_gen (F₁ F₂ : Flags) (e : Expr) (he : ge e = true) (n : Val) (hn : gv n = true) :
    (assign F₂ (assign F₁ e n).expr n).expr = (assign (F₁.union F₂) e n).expr :=
  (rerun_gen F₁ F₂ e he n hn).2

theorem pending_update (F F' : Flags) (e : Expr) (he : ge e = true) (n : Val) (hn : gv n = true) :
    (assign F' (assign F e n).expr n).cats.update = ((assign F' e n).cats.update && !F.update) :=
  (rerun_gen F F' e he n hn).1

theorem nothing_pending_gen (F F' : Flags) (hf : F.fix = true) (hu : F.update = true) (e : Expr)
    (he : ge e = true) (n : Val) (hn : gv n = true) :
    (assign F' (assign F e n).expr n).cats = Flags.empty := by
  obtain ⟨h1, h3⟩ := cats_create_trim F' (assign F e n).expr n
  exact flags_eq_empty h1 (by rw [pending_fix F F' e he n hn, hf]; simp) h3
    (by rw [pending_update F F' e he n hn, hu]; simp)

theorem seq_ul {F : Flags} {D sc es ns}
    (hw : Walk (fun e n => (unmLeaves (assign F e n).expr).Sublist (unmLeaves e))
      (fun n => valOk n = true) D sc es ns) :
    ((assignSeq F sc es ns).2.2.flatMap unmLeaves).Sublist (es.flatMap unmLeaves) := by
  induction hw with
  | nil => simp
  | pair hc hp _ ih => rw [assignSeq_pair hc, flatMap_cons, flatMap_cons]; exact hp.append ih
  | i hn _ ih =>
    rw [assignSeq_i]
    split
    · rw [flatMap_cons, ul_canon _ hn, nil_append]; exact ih
    · exact ih
  | d _ _ ih =>
    rw [assignSeq_d, flatMap_cons]
    split
    · exact ih.trans (sublist_append_right _ _)
    · rw [flatMap_cons]; exact (Sublist.refl _).append ih

theorem ul_keptL {F : Flags} {es : List (Atom × Expr)} {news : List (Atom × Val)}
    (ih : ∀ p ∈ es, ∀ n, valOk n = true → (unmLeaves (assign F p.2 n).expr).Sublist (unmLeaves p.2))
    (hn : ∀ p ∈ news, valOk p.2 = true) :
    ((keptL F es news).flatMap fun p => unmLeaves p.2).Sublist (es.flatMap fun p => unmLeaves p.2) := by
  refine Weave.sublist_flatMap_filterMap _ _ es fun p hp q hq => ?_
  cases hl : lookupA p.1 news with
  | none =>
    rw [keptE_of_none hl] at hq
    cases hF : F.fix <;> rw [hF] at hq <;> cases hq
    exact Sublist.refl _
  | some n' =>
    rw [keptE_of_some hl] at hq
    cases hq
    obtain ⟨k', hm, _⟩ := lookupA_mem hl
    exact ih p hp n' (hn _ hm)

/-- no unmanaged node is altered or created; one can only disappear together with its element -/
theorem ul_run (F : Flags) : ∀ e n, valOk n = true →
    (unmLeaves (assign F e n).expr).Sublist (unmLeaves e) := by
  apply assign_cases
  case kept => intro e n _ h _; rw [h]; exact Sublist.refl _
  case regen =>
    intro e n c _ h hn; rw [h]
    exact ite_elim (P := fun x => (unmLeaves x).Sublist _) (fun _ => by rw [ul_canon n hn]; exact nil_sublist _)
      fun _ => Sublist.refl _
  case seq =>
    intro tup es ns sc _ hw h hn
    rw [valOk_seqV] at hn
    rw [h, ul_seq, ul_seq]
    exact seq_ul (hw.imp_mem (fun _ _ n hm h => h (hn n hm)) (fun n hm _ => hn n hm) (fun _ _ => id))
  case dict =>
    intro es news ih h hn
    rw [valOk_dict] at hn
    rw [h]
    simp only [dictOut_expr, ul_dict]
    have hk := ul_keptL (F := F) ih hn
    cases hF : F.fix with
    | false => rw [entries_nofix hF]; exact hk
    | true =>
      rw [entries_fix hF, ul_weave, filterMap_id_map]
      · exact hk
      · intro q hq
        rw [allIns_dictInserts] at hq
        obtain ⟨kv, hkv, _, rfl⟩ := mem_newEntries.1 hq
        exact ul_canon _ (hn _ hkv)

def isUnm : Expr → Bool
  | .unm _ _ => true
  | _ => false

theorem isStar_of_isUnm {e : Expr} (h : isUnm e = true) : isStar e = false := by
  cases e <;> first | rfl | cases h

theorem assign_isUnm {e : Expr} (h : isUnm e = true) (F : Flags) (n : Val) : (assign F e n).expr = e := by
  cases e <;> first | (simp [isUnm] at h; done) | simp

inductive Pos3 (P : Expr → Val → Val → Prop) : List Expr → List Val → List Val → Prop
  | nil : Pos3 P [] [] []
  | cons {e m n es ms ns} : P e m n → Pos3 P es ms ns → Pos3 P (e :: es) (m :: ms) (n :: ns)

theorem Pos3.spec {P : Expr → Val → Val → Prop} {es ms ns} (h : Pos3 P es ms ns) :
    es.length = ns.length ∧ ms.length = ns.length ∧
    ∀ j (h1 : j < es.length) (h2 : j < ms.length) (h3 : j < ns.length), P es[j] ms[j] ns[j] := by
  induction h with
  | nil => simp
  | cons hp _ ih =>
    refine ⟨by simp [ih.1], by simp [ih.2.1], ?_⟩
    intro j h1 h2 h3
    cases j with
    | zero => exact hp
    | succ j => exact ih.2.2 j (by simpa using h1) (by simpa using h2) (by simpa using h3)

theorem seq_siblings {F : Flags} (hF : F.fix = true) {es₀ : List Expr} {D sc es ns}
    (hw : Walk (fun e n => ((isUnm e = true ∧ e ∈ es₀) ∨ ge e = true) ∧ gv n = true) (fun n => gv n = true)
      D sc es ns) :
    Pos3 (fun e' m n => (isUnm e' = true ∧ e' ∈ es₀) ∨ (pyEq (eval e') n = true ∧ pyEq m n = true))
      (assignSeq F sc es ns).2.2 (assignSeq F sc es ns).2.1 ns := by
  induction hw with
  | nil => rw [assignSeq_nil]; exact .nil
  | pair hc hp _ ih =>
    rw [assignSeq_pair hc]
    refine .cons ?_ ih
    rcases hp.1 with h | h
    · rw [assign_isUnm h.1]; exact .inl h
    · exact .inr ⟨fix_repairs_gen F hF _ h _ hp.2, merged_eq_gen F _ h _ hp.2⟩
  | i hn _ ih =>
    rw [assignSeq_i, if_pos hF]
    refine .cons (.inr ?_) ih
    rw [eval_canon_any]
    exact ⟨pyEq_refl _ hn, pyEq_refl _ hn⟩
  | d _ _ ih => rw [assignSeq_d, if_pos hF]; exact ih

end ISnap.Assign

/- concrete expressions used by the non-vacuity examples of the property files -/
namespace ISnap.Assign.Ex
open ISnap ISnap.Assign

/-- `[1, {"a": 2, 5: (None,)}, True]`, first element spelled non-canonically -/
def e0 : Expr := .seq false [ .leaf 1 false (.atom (.int 1)),
  .dict [(.str [97], .leaf 2 true (.atom (.int 2))), (.int 5, .seq true [.leaf 3 true (.atom .none)])],
  .leaf 4 true (.atom (.bool true)) ]
/-- `[1, {5: (None, 7), "b": 3}, 1]` -/
def n0 : Val := .list [ .atom (.int 1),
  .dict [(.int 5, .tuple [.atom .none, .atom (.int 7)]), (.str [98], .atom (.int 3))], .atom (.int 1) ]
/-- the value of `e0` itself, with `True` observed as `1` -/
def n1 : Val := .list [ .atom (.int 1),
  .dict [(.int 5, .tuple [.atom .none]), (.str [97], .atom (.int 2))], .atom (.int 1) ]
/-- a display with unmanaged parts: `[Is(x), 1, *xs, f"..."]` -/
def e2 : Expr := .seq false [ .unm 7 (.unmIs 0 (.atom (.int 3))), .leaf 1 true (.atom (.int 1)),
  .star (.leaf 8 true (.list [.atom (.int 9)])), .fstr 9 (.atom (.str [120])) ]
/-- `[Is(x), 1]` -/
def e3 : Expr := .seq false [ .unm 7 (.unmIs 0 (.atom (.int 3))), .leaf 1 true (.atom (.int 1)) ]
def fixOnly : Flags := { fix := true }
def updateOnly : Flags := { update := true }

end ISnap.Assign.Ex
