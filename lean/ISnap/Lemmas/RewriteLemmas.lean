import ISnap.Model.Rewrite
import ISnap.Lemmas.LexOrder
/-
  For C03 / C20 (`_rewrite_code.py`). Besides lemmas, this file defines the notions the statements there are
  phrased with (`Chained`, `removed`/`inserted`, `inLine`, `Canon`, `InLines`/`Canons`): they have to be read to
  know what those theorems say.
-/
namespace ISnap.Rewrite

theorem drop_split {α} (l : List α) {p b : Nat} (hpb : p ≤ b) :
    l.drop p = (l.take b).drop p ++ l.drop b := by
  obtain ⟨i, rfl⟩ := Nat.exists_eq_add_of_le hpb
  rw [List.drop_take, Nat.add_sub_cancel_left, ← List.drop_drop, List.take_append_drop]

attribute [simp] replaceFrom

theorem replaceFrom_advance (t : Str) {p a : Nat} (rs : List (Nat × Nat × Str)) (hpa : p ≤ a)
    (h : ∀ r ∈ rs.head?, a ≤ r.1) : replaceFrom t p rs = (t.take a).drop p ++ replaceFrom t a rs := by
  cases rs with
  | nil => exact drop_split t hpa
  | cons r rest =>
    obtain ⟨s, e, x⟩ := r
    rw [replaceFrom, replaceFrom, drop_split (t.take s) hpa, List.take_take, Nat.min_eq_left (h _ rfl),
      List.append_assoc, List.append_assoc, List.append_assoc]

theorem replaceFrom_cut (t : Str) (b : Nat) (rs : List (Nat × Nat × Str)) :
    ∀ p, p ≤ b → (∀ r ∈ rs, r.1 ≤ b ∧ r.2.1 ≤ b) →
      replaceFrom t p rs = replaceFrom (t.take b) p rs ++ t.drop b := by
  induction rs with
  | nil => intro p hp _; exact drop_split t hp
  | cons r rest ih =>
    obtain ⟨s, e, x⟩ := r
    intro p _ h
    have hse : s ≤ b ∧ e ≤ b := h (s, e, x) (by simp)
    simp only [replaceFrom, ih e hse.2 (fun r hr => h r (by simp [hr])), List.take_take,
      Nat.min_eq_left hse.1, List.append_assoc]

/-- what `replaceFrom` emits for a prefix `pre` of the list, and the read position afterwards -/
def headPart (t : Str) : Nat → List (Nat × Nat × Str) → Str × Nat
  | p, [] => ([], p)
  | p, (s, e, x) :: rest => ((t.take s).drop p ++ x ++ (headPart t e rest).1, (headPart t e rest).2)

theorem replaceFrom_append (t : Str) (pre rest : List (Nat × Nat × Str)) :
    ∀ p, replaceFrom t p (pre ++ rest) =
      (headPart t p pre).1 ++ replaceFrom t (headPart t p pre).2 rest := by
  induction pre with
  | nil => intro p; simp [headPart]
  | cons r pre ih =>
    obtain ⟨s, e, x⟩ := r
    intro p
    simp [headPart, ih e]

theorem replaceFrom_suffix (t : Str) {p b : Nat} (rs : List (Nat × Nat × Str)) (hp : rs = [] → p ≤ b)
    (h : ∀ r ∈ rs.getLast?, r.2.1 ≤ b) : ∃ m, replaceFrom t p rs = m ++ t.drop b := by
  rcases List.eq_nil_or_concat rs with rfl | ⟨init, ⟨s, e, x⟩, rfl⟩
  · exact ⟨_, drop_split t (hp rfl)⟩
  · have he : e ≤ b := h (s, e, x) (by simp)
    refine ⟨(headPart t p init).1 ++ (t.take s).drop (headPart t p init).2 ++ x ++ (t.take b).drop e, ?_⟩
    rw [List.concat_eq_append, replaceFrom_append, replaceFrom, replaceFrom, drop_split t he]
    simp

theorem replaceFrom_eq_headPart (t : Str) (p : Nat) (rs : List (Nat × Nat × Str)) :
    replaceFrom t p rs = (headPart t p rs).1 ++ t.drop (headPart t p rs).2 := by
  have := replaceFrom_append t rs [] p
  simpa using this

/-- the offset replacements `(start, end, text)` of `rs` are ordered, do not overlap, lie inside `t` and start at
    or after the read position `p` -/
inductive Chained (t : Str) : Nat → List (Nat × Nat × Str) → Prop
  | nil (p : Nat) : Chained t p []
  | cons {p s e : Nat} {x : Str} {rest : List (Nat × Nat × Str)} :
      p ≤ s → s ≤ e → e ≤ t.length → Chained t e rest → Chained t p ((s, e, x) :: rest)

/-- the inductive reading is the one `replaceFrom` walks along; this one mentions the order of the list only in
    `Pairwise`, and so survives sorting -/
theorem chained_iff {t : Str} {p : Nat} {rs : List (Nat × Nat × Str)} :
    Chained t p rs ↔ (∀ r ∈ rs, p ≤ r.1 ∧ r.1 ≤ r.2.1 ∧ r.2.1 ≤ t.length) ∧
      rs.Pairwise (fun a b => a.2.1 ≤ b.1) := by
  induction rs generalizing p with
  | nil => simp [Chained.nil]
  | cons r rest ih =>
    obtain ⟨s, e, x⟩ := r
    rw [List.pairwise_cons, List.forall_mem_cons]
    constructor
    · rintro (_ | ⟨h1, h2, h3, hc⟩)
      obtain ⟨hb, hp⟩ := ih.1 hc
      exact ⟨⟨⟨h1, h2, h3⟩, fun r hr => by have := hb r hr; omega⟩, fun r hr => (hb r hr).1, hp⟩
    · rintro ⟨⟨⟨h1, h2, h3⟩, hb⟩, hh, hp⟩
      exact .cons h1 h2 h3 (ih.2 ⟨fun r hr => ⟨hh r hr, (hb r hr).2⟩, hp⟩)

theorem Chained.bounds {t : Str} {p : Nat} {rs} (h : Chained t p rs) :
    ∀ r ∈ rs, p ≤ r.1 ∧ r.1 ≤ r.2.1 ∧ r.2.1 ≤ t.length :=
  (chained_iff.1 h).1

theorem Chained.pairwise {t : Str} {p : Nat} {rs} (h : Chained t p rs) :
    rs.Pairwise (fun a b => a.1 ≤ a.2.1 ∧ a.2.1 ≤ b.1 ∧ b.1 ≤ b.2.1) :=
  (chained_iff.1 h).2.imp_of_mem fun ha hb hab => ⟨(h.bounds _ ha).2.1, hab, (h.bounds _ hb).2.1⟩

theorem Chained.headPart_snd {t : Str} {p : Nat} {rs} (h : Chained t p rs) :
    p ≤ (headPart t p rs).2 ∧ (p ≤ t.length → (headPart t p rs).2 ≤ t.length) := by
  induction h with
  | nil => simp [headPart]
  | cons h1 h2 h3 _ ih => simp only [headPart]; omega

def removed : List (Nat × Nat × Str) → Nat
  | [] => 0
  | (s, e, _) :: rest => (e - s) + removed rest

def inserted : List (Nat × Nat × Str) → Nat
  | [] => 0
  | (_, _, x) :: rest => x.length + inserted rest

theorem Chained.length_replaceFrom {t : Str} {p : Nat} {rs} (h : Chained t p rs)
    (hp : p ≤ t.length) :
    (replaceFrom t p rs).length + removed rs + p = t.length + inserted rs := by
  induction h with
  | nil => simp [removed, inserted]; omega
  | cons h1 h2 h3 _ ih =>
    have := ih h3
    obtain ⟨i, rfl⟩ := Nat.exists_eq_add_of_le h1
    obtain ⟨j, rfl⟩ := Nat.exists_eq_add_of_le h2
    simp only [replaceFrom, List.length_append, List.length_drop, List.length_take,
      Nat.min_eq_left (Nat.le_trans h2 h3), removed, inserted, Nat.add_sub_cancel_left]
    omega

/-- as a sublist of a `range'` the line ends are at once increasing, distinct and inside the text -/
theorem lineEnds_sublist (o : Nat) (t : Str) : (lineEnds o t).Sublist (List.range' (o + 1) t.length) := by
  fun_induction lineEnds o t with
  | case1 => exact List.nil_sublist _
  | case2 o rest ih => exact (ih.cons_cons _).cons _
  | case3 o rest _ ih => exact ih.cons_cons _
  | case4 o rest ih => exact ih.cons_cons _
  | case5 o c rest _ _ _ ih => exact ih.cons _

theorem lineOffsets_sublist (t : Str) : (lineOffsets t).Sublist (List.range' 0 (t.length + 1)) :=
  (lineEnds_sublist 0 t).cons_cons 0

theorem lineOffsets_sorted (t : Str) : (lineOffsets t).Pairwise (· < ·) :=
  List.Pairwise.sublist (lineOffsets_sublist t) List.pairwise_lt_range'

theorem lineOffsets_le (t : Str) : ∀ v ∈ lineOffsets t, v ≤ t.length := by
  intro v hv
  have := List.mem_range'_1.1 ((lineOffsets_sublist t).subset hv)
  omega

theorem lineOffsets_mono (t : Str) {i j : Nat} (hij : i ≤ j) (hj : j < (lineOffsets t).length) :
    (lineOffsets t)[i]'(Nat.lt_of_le_of_lt hij hj) ≤ (lineOffsets t)[j] := by
  rcases Nat.eq_or_lt_of_le hij with rfl | hlt
  · exact Nat.le_refl _
  · exact Nat.le_of_lt (List.pairwise_iff_getElem.1 (lineOffsets_sorted t) i j _ hj hlt)

theorem takeWhile_last {α} (p : α → Bool) (xs : List α) (d : α) (h : xs.takeWhile p ≠ []) :
    xs[(xs.takeWhile p).length - 1]? = some ((xs.takeWhile p).getLastD d) ∧
      p ((xs.takeWhile p).getLastD d) = true := by
  have hk : (xs.takeWhile p).length - 1 < (xs.takeWhile p).length := by
    have := List.length_pos_iff.2 h; omega
  rw [List.getLastD_eq_getLast?, List.getLast?_eq_getElem?, List.getElem?_eq_getElem hk, Option.getD_some]
  exact ⟨List.prefix_iff_getElem?.1 (List.takeWhile_prefix p) _ hk,
    List.all_eq_true.1 List.all_takeWhile _ (List.getElem_mem hk)⟩

theorem takeWhile_next {α} (p : α → Bool) (xs : List α) (v : α)
    (h : xs[(xs.takeWhile p).length]? = some v) : p v = false := by
  have e := List.getElem?_append_right (l₁ := xs.takeWhile p) (l₂ := xs.dropWhile p) (Nat.le_refl _)
  rw [List.takeWhile_append_dropWhile, Nat.sub_self, ← List.head?_eq_getElem?] at e
  have := List.head?_dropWhile_not p xs
  rw [← e, h] at this
  exact this

theorem posLe_iff (l1 c1 l2 c2 : Nat) :
    posLe l1 c1 l2 c2 = true ↔ l1 < l2 ∨ (l1 = l2 ∧ c1 ≤ c2) := by
  simp [posLe]

theorem strLe_iff : ∀ a b : Str, strLe a b = true ↔ a ≤ b
  | [], _ => by simp [strLe]
  | _ :: _, [] => by simp [strLe]
  | a :: as, b :: bs => by simp [strLe, List.cons_le_cons_iff, strLe_iff as bs]

theorem linearKey_strLe : LinearKey strLe := linearKey_listLe strLe_iff

theorem linearKey_posLe : LinearKey (fun p q : Nat × Nat => posLe p.1 p.2 q.1 q.2) := by
  constructor <;> simp only [posLe_iff, ne_eq, Prod.ext_iff] <;> omega

theorem tripleLe_iff (a b : Nat × Nat × Str) :
    tripleLe a b = true ↔
      a.1 < b.1 ∨ (a.1 = b.1 ∧ (a.2.1 < b.2.1 ∨ (a.2.1 = b.2.1 ∧ strLe a.2.2 b.2.2 = true))) := by
  unfold tripleLe
  by_cases h1 : a.1 = b.1 <;> by_cases h2 : a.2.1 = b.2.1 <;> simp [h1, h2] <;> omega

/- `tripleLe` and `Repl.le` are written as nested `if key a ≠ key b then … else …`: by unfolding they are the
   comparison functions of `TotalPreorder.lex`. -/
theorem tripleLe_totalPreorder : TotalPreorder tripleLe :=
  .lex (fun a : Nat × Nat × Str => a.1) linearKey_lt
    (.lex (fun a : Nat × Nat × Str => a.2.1) linearKey_lt
      ((totalPreorder_listLe strLe_iff).comap fun a : Nat × Nat × Str => a.2.2))

theorem Repl.le_totalPreorder : TotalPreorder Repl.le :=
  .lex (fun r : Repl => (r.sl, r.sc)) linearKey_posLe
    (.lex (fun r : Repl => (r.el, r.ec)) linearKey_posLe
      (.lex (fun r : Repl => r.text) linearKey_strLe (totalPreorder_natLe.comap Repl.id)))

theorem Repl.le_text {a b : Repl} (hs : a.sl = b.sl ∧ a.sc = b.sc) (he : a.el = b.el ∧ a.ec = b.ec)
    (h : Repl.le a b = true) : strLe a.text b.text = true := by
  simp only [Repl.le, hs.1, hs.2, he.1, he.2, ne_eq, not_true_eq_false, if_false] at h
  split at h
  · exact h
  · next ht => rw [Classical.not_not.1 ht, strLe_iff]; exact List.le_refl _

/-- `asttokens.util.replace` sorts its argument again. The bounds speak of members only, and "do not overlap" is
    symmetric, so both pass to a permutation; sortedness then orients the non-overlap again. -/
theorem Chained.mergeSort {t : Str} {p : Nat} {rs : List (Nat × Nat × Str)} (h : Chained t p rs) :
    Chained t p (rs.mergeSort tripleLe) := by
  obtain ⟨hb, hp⟩ := chained_iff.1 h
  have hb' : ∀ r ∈ rs.mergeSort tripleLe, _ := fun r hr => hb r (List.mem_mergeSort.1 hr)
  have hn : (rs.mergeSort tripleLe).Pairwise (fun a b => a.2.1 ≤ b.1 ∨ b.2.1 ≤ a.1) :=
    (List.mergeSort_perm rs tripleLe).symm.pairwise (hp.imp Or.inl) (fun h => h.symm)
  refine chained_iff.2 ⟨hb', ((tripleLe_totalPreorder.pairwise_mergeSort rs).and hn).imp_of_mem ?_⟩
  intro a b ha hb ⟨hle, hno⟩
  have := hb' a ha
  have := hb' b hb
  have := (tripleLe_iff a b).1 hle
  omega

/-- the position `(l, c)` does not reach past the start of the next line (if there is one) -/
def inLine (t : Str) (l c : Nat) : Bool :=
  match (lineOffsets t)[l]? with
  | none => true
  | some o' => decide (lineToOffset t l c ≤ o')

/-- canonical positions: the ones `offset_to_line` produces -/
def Canon (t : Str) (l c : Nat) : Prop := offsetToLine t (lineToOffset t l c) = (l, c)

instance (t : Str) (l c : Nat) : Decidable (Canon t l c) := by unfold Canon; infer_instance

/-- positions whose columns stay inside their line -/
def InLines (t : Str) (rs : List Repl) : Prop :=
  ∀ r ∈ rs, inLine t r.sl r.sc = true ∧ inLine t r.el r.ec = true

def Canons (t : Str) (rs : List Repl) : Prop :=
  ∀ r ∈ rs, Canon t r.sl r.sc ∧ Canon t r.el r.ec

theorem sortRepls_of_sorted {rs : List Repl} (h : rs.Pairwise (fun a b => Repl.le a b = true)) :
    sortRepls rs = rs := List.mergeSort_of_pairwise h

theorem newCode_eq (fmt : Str → Str) (enforce : Bool) (t : Str) (rs : List Repl) :
    newCode fmt enforce t rs =
      if checkSorted (sortRepls rs) = true then
        some (if (enforce = true ∨ fmt t = t) then fmt (replaceText t ((sortRepls rs).map (toOffsets t)))
          else replaceText t ((sortRepls rs).map (toOffsets t)))
      else none := by
  unfold newCode
  cases h : checkSorted (sortRepls rs) <;> simp [h]

theorem newCode_eq_some {fmt : Str → Str} {enforce : Bool} {t : Str} {rs : List Repl} {r : Str} :
    newCode fmt enforce t rs = some r ↔ checkSorted (sortRepls rs) = true ∧
      r = if (enforce = true ∨ fmt t = t) then fmt (replaceText t ((sortRepls rs).map (toOffsets t)))
        else replaceText t ((sortRepls rs).map (toOffsets t)) := by
  rw [newCode_eq]
  split <;> simp [*, eq_comm]

end ISnap.Rewrite
