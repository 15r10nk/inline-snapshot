import ISnap.Model.Table
/-
  The operations of the session table in closed form: what `Table.set` does to `Table.lookup` and to the
  entries, and what an evaluation of `snapshot(...)` leaves.
-/
namespace ISnap
variable {V : Type}

theorem Table.lookup_set (t : Table V) (k' k : Nat) (s : Site V) :
    (t.set k' s).lookup k = if k' = k then some s else t.lookup k := by
  unfold Table.lookup Table.set
  fun_induction setSite k' s t.sites with
  | case1 => by_cases h : k' = k <;> simp [h]
  | case2 _ _ _ hk =>
    cases beq_iff_eq.1 hk
    by_cases h : k' = k <;> simp [h]
  | case3 k'' _ _ hk ih =>
    by_cases h : k'' = k
    · have : k' ≠ k := fun e => hk (by simp [h, e])
      simp [h, this]
    · simp [h, ih]

theorem mem_setSite {k : Nat} {s : Site V} {l : List (Nat × Site V)} {p : Nat × Site V}
    (h : p ∈ setSite k s l) : p ∈ l ∨ p.2 = s := by
  fun_induction setSite k s l with
  | case1 => exact .inr (by rw [List.mem_singleton.1 h])
  | case2 =>
    rcases List.mem_cons.1 h with rfl | h
    · exact .inr rfl
    · exact .inl (List.mem_cons_of_mem _ h)
  | case3 _ _ _ _ ih =>
    rcases List.mem_cons.1 h with rfl | h
    · exact .inl List.mem_cons_self
    · exact (ih h).imp_left (List.mem_cons_of_mem _)

theorem Table.snap_fst (o : Ops V) (t : Table V) (k : Nat) (old : Option (OldArg V)) :
    (t.snap o k old).1 = (match t.lookup k with | none => t.set k (Site.ofOld old) | some _ => t) := by
  unfold Table.snap
  cases t.lookup k with
  | none => rfl
  | some s => dsimp only; split <;> rfl

end ISnap
