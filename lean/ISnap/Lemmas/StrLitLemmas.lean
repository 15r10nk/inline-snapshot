import ISnap.Model.StrLit
import ISnap.Lemmas.Ite
/-
  Lemmas for C12 (string / bytes literals read back identically).
  `Dec` says what `evalBody` does with a piece of text in front of any continuation.  After the one-step
  equations of `evalBody` nothing unfolds it: pieces are put together with `Dec.append` and `Dec.flatMap`,
  and `Dec.finish` closes the literal.
  `Esc`, `Enc`: the forms in which the encoders write one character.  Reading back, the first character and
  the characters below `'0'` (quotes, blank, newline) are settled once for the forms; each encoder is placed
  among them by one pass through its `if` chain.  In a triple-quoted literal a piece may end in an unescaped
  quote, so what follows matters: `DecT` is `Dec` for the continuations that complete no `qqq`, and is closed
  under append.  The body reads back if the written text holds no `qqq`; `mem_possOf_iff` turns that into a
  condition on the string itself.
-/
namespace ISnap.StrLit

theorem hexVal_hexDigit : ∀ d, d < 16 → hexVal? (hexDigit d) = some d := by decide

theorem readHex_snoc (n : Nat) : ∀ (acc : Nat) (L : Str) (v d dv : Nat) (R : Str),
    readHex n acc L = some (v, d :: R) → hexVal? d = some dv →
    readHex (n+1) acc L = some (v * 16 + dv, R) := by
  induction n with
  | zero =>
    intro acc L v d dv R h hd
    simp [readHex] at h
    obtain ⟨rfl, rfl⟩ := h
    simp [readHex, hd]
  | succ n ih =>
    intro acc L v d dv R h hd
    cases L with
    | nil => simp [readHex] at h
    | cons c L =>
      rw [readHex] at h ⊢
      cases hc : hexVal? c with
      | none => simp [hc] at h
      | some x =>
        simp only [hc] at h ⊢
        exact ih _ _ _ _ _ _ h hd

theorem readHex_hexN_zero (n : Nat) {c : Nat} (R : Str) (h : c < 16 ^ n) :
    readHex n 0 (hexN n c ++ R) = some (c, R) := by
  induction n generalizing c R with
  | zero => simp at h; subst h; rfl
  | succ n ih =>
    have h1 : c / 16 < 16 ^ n := (Nat.div_lt_iff_lt_mul (by decide)).2 (Nat.pow_succ .. ▸ h)
    have h2 := readHex_snoc n 0 _ _ _ _ R (ih (hexDigit (c % 16) :: R) h1)
      (hexVal_hexDigit (c % 16) (Nat.mod_lt _ (by decide)))
    simp only [hexN, List.append_assoc, List.singleton_append]
    rw [h2, Nat.div_add_mod']

theorem bs_ne_quote {q : Nat} (hq : q = SQ ∨ q = DQ) : BS ≠ q := by rcases hq with rfl | rfl <;> decide

-- `rw [evalBody.eq_def]` below, not `rw [evalBody]`: the latter builds the equation lemmas of `evalBody`
-- again in every proof that uses it.

/-- `evalBody`, `evalLit` and `evalBytesLit` look for two more quotes with this same `match` -/
theorem match_not_qq {α : Type} {q : Nat} {rest : Str} (h : ∀ r, rest ≠ q :: q :: r) (A : Str → α) (B : α) :
    (match (generalizing := false) rest with
      | c2 :: c3 :: rest' => if c2 = q ∧ c3 = q then A rest' else B
      | _ => B) = B := by
  match rest, h with
  | [], _ => rfl
  | [a], _ => rfl
  | a :: b :: r, h => exact if_neg (by rintro ⟨rfl, rfl⟩; exact h r rfl)

theorem evalBody_push (b : Bool) {q : Nat} {tq : Bool} (fuel : Nat) (acc : Str) {c : Nat} {rest : Str}
    (h1 : c ≠ BS) (h2 : c = NL → tq = true) (h3 : c = q → tq = true ∧ ∀ r, rest ≠ q :: q :: r) :
    evalBody b q tq (fuel+1) acc (c :: rest) = evalBody b q tq fuel (c :: acc) rest := by
  rw [evalBody.eq_def]
  by_cases hq : c = q
  · obtain ⟨rfl, h⟩ := h3 hq
    subst hq
    exact (if_pos rfl).trans ((if_pos rfl).trans (match_not_qq h _ _))
  · refine (if_neg hq).trans ((if_neg fun h => ?_).trans (if_neg h1))
    rw [h2 h.1] at h; exact h.2 rfl

theorem evalBody_close_triple (b : Bool) (q : Nat) (fuel : Nat) (acc : Str) :
    evalBody b q true (fuel+1) acc [q, q, q] = some acc.reverse := by
  rw [evalBody.eq_def]; simp

theorem evalBody_close_single (b : Bool) (q : Nat) (fuel : Nat) (acc : Str) :
    evalBody b q false (fuel+1) acc [q] = some acc.reverse := by
  rw [evalBody.eq_def]; simp

theorem evalBody_cont (b : Bool) (q : Nat) (tq : Bool) (fuel : Nat) (acc : Str) (rest : Str)
    (hq : q = SQ ∨ q = DQ) :
    evalBody b q tq (fuel+1) acc (BS :: NL :: rest) = evalBody b q tq fuel acc rest := by
  have hq' : ¬ 92 = q := bs_ne_quote hq
  rw [evalBody.eq_def]
  simp [hq', BS, NL]

theorem evalBody_quote {q c : Nat} (hq : q = SQ ∨ q = DQ) (hc : c = SQ ∨ c = DQ) (b tq fuel acc rest) :
    evalBody b q tq (fuel+1) acc (BS :: c :: rest) = evalBody b q tq fuel (c :: acc) rest := by
  have hq' : ¬ 92 = q := bs_ne_quote hq
  rw [evalBody.eq_def]
  rcases hc with rfl | rfl <;> simp [hq', BS, NL, SQ, DQ]

/-- The letter escapes of the code point `c` that the encoders write (`b`: in a bytes literal, where
    `\u` and `\U` are no escapes).  `u8` carries no bound: `reprChar` uses it for everything above
    `0xffff`, and only reading back needs `c < 0x110000`. -/
inductive Esc : Bool → Nat → Str → Prop
  | bs {b} : Esc b BS [BS, BS]
  | tab {b} : Esc b TAB [BS, 116]
  | nl {b} : Esc b NL [BS, 110]
  | cr {b} : Esc b CR [BS, 114]
  | x {b c} : c < 256 → Esc b c (escX c)
  | u4 {c} : c < 65536 → Esc false c (escU4 c)
  | u8 {c} : Esc false c (escU8 c)

theorem Esc.step {b c t} (h : Esc b c t) {q : Nat} (hq : q = SQ ∨ q = DQ) (hc : c < 0x110000)
    (tq fuel acc rest) :
    evalBody b q tq (fuel+1) acc (t ++ rest) = evalBody b q tq fuel (c :: acc) rest := by
  have hq' : ¬ 92 = q := bs_ne_quote hq
  rw [evalBody.eq_def]
  cases h with
  | bs => simp [hq', BS, NL]
  | tab => simp [hq', BS, NL, SQ, DQ, TAB]
  | nl => simp [hq', BS, NL, SQ, DQ]
  | cr => simp [hq', BS, NL, SQ, DQ, CR]
  | x h => simp [escX, hq', BS, NL, SQ, DQ, readHex_hexN_zero 2 rest h]
  | u4 h => simp [escU4, hq', BS, NL, SQ, DQ, readHex_hexN_zero 4 rest h]
  | u8 => simp [escU8, hq', BS, NL, SQ, DQ, readHex_hexN_zero 8 rest (Nat.lt_trans hc (by decide)), hc]

theorem hexDigit_ge (d : Nat) : 48 ≤ hexDigit d := by unfold hexDigit; split <;> omega

theorem hexN_ge (n : Nat) : ∀ c, ∀ x ∈ hexN n c, 48 ≤ x := by
  induction n with
  | zero => intro c x hx; simp [hexN] at hx
  | succ n ih =>
    intro c x hx
    simp only [hexN, List.mem_append, List.mem_singleton] at hx
    rcases hx with hx | rfl
    · exact ih _ _ hx
    · exact hexDigit_ge _

/-- after the backslash come only letters and digits (`48 = '0'`): no quote, blank or newline -/
theorem Esc.eq_cons {b c t} (h : Esc b c t) : ∃ e u, t = BS :: e :: u ∧ ∀ x ∈ e :: u, 48 ≤ x := by
  -- `[e] ++ hexN n c` as `escX` has it: unfolding `hexN` to match `e :: _` is dear
  have hx : ∀ e n c, 48 ≤ e → ∀ x ∈ [e] ++ hexN n c, 48 ≤ x := fun e n c he x hx => by
    rcases List.mem_cons.1 hx with rfl | hx
    · exact he
    · exact hexN_ge _ _ _ hx
  cases h with
  | bs => exact ⟨_, _, rfl, by decide⟩
  | tab => exact ⟨_, _, rfl, by decide⟩
  | nl => exact ⟨_, _, rfl, by decide⟩
  | cr => exact ⟨_, _, rfl, by decide⟩
  | x => exact ⟨_, _, rfl, hx _ _ _ (by decide)⟩
  | u4 => exact ⟨_, _, rfl, hx _ _ _ (by decide)⟩
  | u8 => exact ⟨_, _, rfl, hx _ _ _ (by decide)⟩


def WfStr (s : Str) : Prop := ∀ c ∈ s, c < 0x110000
def WfBytes (s : Str) : Prop := ∀ c ∈ s, c < 256

/-- `text`, read by `evalBody` in front of any continuation `R`, pushes the characters `v`
    and uses at most `text.length` units of fuel. -/
def Dec (b : Bool) (q : Nat) (tq : Bool) (text v R : Str) : Prop :=
  ∃ n, n ≤ text.length ∧ ∀ fuel acc,
    evalBody b q tq (fuel + n) acc (text ++ R) = evalBody b q tq fuel (v.reverse ++ acc) R

theorem Dec.nil (b q tq R) : Dec b q tq [] [] R := ⟨0, by simp, by intros; simp⟩

theorem Dec.append {b q tq t1 v1 t2 v2 R} (h1 : Dec b q tq t1 v1 (t2 ++ R)) (h2 : Dec b q tq t2 v2 R) :
    Dec b q tq (t1 ++ t2) (v1 ++ v2) R := by
  obtain ⟨n1, hn1, e1⟩ := h1
  obtain ⟨n2, hn2, e2⟩ := h2
  refine ⟨n2 + n1, by simp; omega, ?_⟩
  intro fuel acc
  rw [← Nat.add_assoc, List.append_assoc, e1, e2]
  simp

theorem Dec.one {b q tq a t v R}
    (h : ∀ fuel acc, evalBody b q tq (fuel + 1) acc (a :: t ++ R) = evalBody b q tq fuel (v.reverse ++ acc) R) :
    Dec b q tq (a :: t) v R :=
  ⟨1, by simp, h⟩

theorem Dec.finish {b q tq text v closing} (h : Dec b q tq text v closing)
    (hc : ∀ fuel acc, evalBody b q tq (fuel + 1) acc closing = some acc.reverse) :
    evalBody b q tq ((text ++ closing).length + 1) [] (text ++ closing) = some v := by
  obtain ⟨n, hn, e⟩ := h
  have : (text ++ closing).length + 1 = (text.length - n + closing.length + 1) + n := by
    simp; omega
  rw [this, e, hc]
  simp

theorem Dec.flatMap {b q tq} (enc : Nat → Str) (s : Str)
    (h : ∀ c ∈ s, ∀ R, Dec b q tq (enc c) [c] R) : ∀ R, Dec b q tq (s.flatMap enc) s R := by
  induction s with
  | nil => intro R; exact Dec.nil ..
  | cons c s ih =>
    intro R
    rw [List.flatMap_cons]
    have h1 := h c (by simp) (s.flatMap enc ++ R)
    have h2 := ih (fun c hc => h c (by simp [hc])) R
    exact Dec.append (v1 := [c]) h1 h2

theorem Dec.plain {b q tq c R} (h1 : c ≠ BS) (h2 : c = NL → tq = true)
    (h3 : c = q → tq = true ∧ ∀ r, R ≠ q :: q :: r) : Dec b q tq [c] [c] R :=
  Dec.one fun _ _ => evalBody_push _ _ _ h1 h2 h3

theorem Esc.dec {b c t} (h : Esc b c t) {q : Nat} (hq : q = SQ ∨ q = DQ) (hc : c < 0x110000) (tq R) :
    Dec b q tq t [c] R := by
  obtain ⟨e, u, rfl, _⟩ := h.eq_cons
  exact Dec.one (h.step hq hc tq · · R)

/-- `t` writes the code point `c`: as itself (allowed when `P`), behind a backslash (allowed when `Q`),
    or by a letter escape; `P` and `Q` vary with the encoder. -/
inductive Enc (P Q : Prop) (b : Bool) (c : Nat) : Str → Prop
  | plain : P → Enc P Q b c [c]
  | quoted : Q → Enc P Q b c [BS, c]
  | esc {t} : Esc b c t → Enc P Q b c t

section Enc
variable {P Q P' Q' : Prop} {b : Bool} {c : Nat} {t : Str}

theorem Enc.mono (hP : P → P') (hQ : Q → Q') : Enc P Q b c t → Enc P' Q' b c t
  | .plain h => .plain (hP h)
  | .quoted h => .quoted (hQ h)
  | .esc h => .esc h

theorem Enc.head (h : Enc P Q b c t) : t = [c] ∧ P ∨ ∃ u, t = BS :: u := by
  rcases h with ⟨h⟩ | ⟨-⟩ | ⟨h⟩
  · exact .inl ⟨rfl, h⟩
  · exact .inr ⟨_, rfl⟩
  · obtain ⟨e, u, rfl, _⟩ := h.eq_cons
    exact .inr ⟨_, rfl⟩

/-- a quote, blank or newline (anything below `'0'`) in what is written for `c` is `c` itself -/
theorem Enc.mem (h : Enc P Q b c t) {x : Nat} (hx : x ∈ t) :
    48 ≤ x ∨ x = c ∧ (t = [c] ∧ P ∨ t = [BS, c] ∧ Q) := by
  rcases h with ⟨h⟩ | ⟨h⟩ | ⟨h⟩
  · exact .inr ⟨List.mem_singleton.1 hx, .inl ⟨rfl, h⟩⟩
  · rcases List.mem_cons.1 hx with rfl | hx
    · exact .inl (by decide)
    · exact .inr ⟨List.mem_singleton.1 hx, .inr ⟨rfl, h⟩⟩
  · obtain ⟨e, u, rfl, hu⟩ := h.eq_cons
    rcases List.mem_cons.1 hx with rfl | hx
    · exact .inl (by decide)
    · exact .inl (hu _ hx)

/-- the unescaped case is the caller's (`Dec.plain`): it depends on `q`, `tq` and what follows -/
theorem Enc.dec {q tq R} (h : Enc P Q b c t) (hq : q = SQ ∨ q = DQ) (hc : c < 0x110000)
    (hQ : Q → c = SQ ∨ c = DQ) (hP : P → t = [c] → Dec b q tq [c] [c] R) : Dec b q tq t [c] R := by
  rcases h with ⟨h⟩ | ⟨h⟩ | ⟨h⟩
  · exact hP h rfl
  · exact Dec.one fun _ _ => evalBody_quote hq (hQ h) ..
  · exact h.dec hq hc tq R

end Enc

/-- what `repr` writes for `c` when the quote is `q` -/
abbrev ReprEnc (b : Bool) (q c : Nat) (t : Str) : Prop := Enc (c ≠ q ∧ c ≠ BS ∧ c ≠ NL) (c = q) b c t

theorem reprChar_enc (printable : Nat → Bool) (q c : Nat) : ReprEnc false q c (reprChar printable q c) := by
  unfold reprChar
  refine ite_elim (fun h => ?_) fun h1 => ?_
  · rcases h with h | rfl
    · exact .quoted h
    · exact .esc .bs
  refine ite_elim (fun h => h.symm ▸ .esc .tab) fun _ => ?_
  refine ite_elim (fun h => h.symm ▸ .esc .nl) fun h3 => ?_
  refine ite_elim (fun h => h.symm ▸ .esc .cr) fun _ => ?_
  refine ite_elim (fun h => .esc (.x (by omega))) fun _ => ?_
  have hp : ReprEnc false q c [c] := .plain ⟨fun h => h1 (.inl h), fun h => h1 (.inr h), h3⟩
  refine ite_elim (fun _ => hp) fun _ => ?_
  refine ite_elim (fun _ => hp) fun _ => ?_
  refine ite_elim (fun h => .esc (.x (by omega))) fun _ => ?_
  exact ite_elim (fun h => .esc (.u4 (by omega))) fun _ => .esc .u8

theorem bytesReprChar_enc (q c : Nat) (hc : c < 256) : ReprEnc true q c (bytesReprChar q c) := by
  unfold bytesReprChar
  refine ite_elim (fun h => ?_) fun h1 => ?_
  · rcases h with h | rfl
    · exact .quoted h
    · exact .esc .bs
  refine ite_elim (fun h => h.symm ▸ .esc .tab) fun _ => ?_
  refine ite_elim (fun h => h.symm ▸ .esc .nl) fun h3 => ?_
  refine ite_elim (fun h => h.symm ▸ .esc .cr) fun _ => ?_
  exact ite_elim (fun _ => .esc (.x hc)) fun _ => .plain ⟨fun h => h1 (.inl h), fun h => h1 (.inr h), h3⟩

theorem unicodeEscape_enc (c : Nat) : Enc (c ≠ BS) False false c (unicodeEscape c) := by
  unfold unicodeEscape
  refine ite_elim (fun h => h.symm ▸ .esc .bs) fun h1 => ?_
  refine ite_elim (fun h => h.symm ▸ .esc .tab) fun _ => ?_
  refine ite_elim (fun h => h.symm ▸ .esc .nl) fun _ => ?_
  refine ite_elim (fun h => h.symm ▸ .esc .cr) fun _ => ?_
  refine ite_elim (fun h => .esc (.x (by omega))) fun _ => ?_
  refine ite_elim (fun _ => .plain h1) fun _ => ?_
  exact ite_elim (fun h => .esc (.u4 (by omega))) fun _ => .esc .u8

theorem escapeChar_enc (printable : Nat → Bool) (extra : Option Nat) (c : Nat) :
    Enc (c ≠ BS) (extra = some c) false c (escapeChar printable extra c) := by
  unfold escapeChar
  refine ite_elim (fun h => .plain (by rcases h with rfl | rfl <;> decide)) fun _ => ?_
  refine ite_elim (fun _ => (unicodeEscape_enc c).mono id False.elim) fun h2 => ?_
  exact ite_elim (fun h => .quoted h.symm) fun _ => .plain fun h => h2 (.inl h)

theorem reprQuote_cases (s : Str) : reprQuote s = SQ ∨ reprQuote s = DQ := by
  unfold reprQuote; split <;> simp

theorem evalLit_single {q : Nat} (hq : q = SQ ∨ q = DQ) (rest : Str) (h : ∀ r, rest ≠ q :: q :: r) :
    evalLit (q :: rest) = evalBody false q false (rest.length + 1) [] rest :=
  (if_pos hq).trans (match_not_qq h _ _)

theorem evalBytesLit_single {q : Nat} (hq : q = SQ ∨ q = DQ) (rest : Str) (h : ∀ r, rest ≠ q :: q :: r) :
    evalBytesLit (98 :: q :: rest) = evalBody true q false (rest.length + 1) [] rest :=
  (if_pos hq).trans (match_not_qq h _ _)

section repr
variable {b : Bool} {q : Nat} (hq : q = SQ ∨ q = DQ) {enc : Nat → Str} {s : Str}
  (henc : ∀ c ∈ s, ReprEnc b q c (enc c))
include hq henc

theorem evalBody_repr (hs : WfStr s) :
    evalBody b q false ((s.flatMap enc ++ [q]).length + 1) [] (s.flatMap enc ++ [q]) = some s :=
  Dec.finish (Dec.flatMap _ s (fun c hc _ => (henc c hc).dec hq (hs c hc) (fun h => h ▸ hq)
      fun ⟨h1, h2, h3⟩ _ => Dec.plain h2 (absurd · h3) (absurd · h1)) _)
    fun _ _ => evalBody_close_single ..

/-- so that the literal is not taken for a triple-quoted one -/
theorem flatMap_repr_ne (r : Str) : s.flatMap enc ++ [q] ≠ q :: q :: r := by
  cases s with
  | nil => simp
  | cons c s =>
    rw [List.flatMap_cons]
    intro h
    rcases (henc c (by simp)).head with ⟨e, h1, _⟩ | ⟨u, e⟩ <;> rw [e] at h
    · exact h1 (List.cons.inj h).1
    · exact bs_ne_quote hq (List.cons.inj h).1

theorem nl_not_mem_repr : NL ∉ [q] ++ s.flatMap enc ++ [q] := by
  have hqn : NL ≠ q := by rcases hq with rfl | rfl <;> decide
  simp only [List.mem_append, List.mem_singleton, List.mem_flatMap, not_or]
  refine ⟨⟨hqn, ?_⟩, hqn⟩
  rintro ⟨c, hc, hm⟩
  rcases (henc c hc).mem hm with h | ⟨rfl, ⟨_, h⟩ | ⟨_, rfl⟩⟩
  · exact absurd h (by decide)
  · exact h.2.2 rfl
  · exact hqn rfl

end repr

theorem evalLit_repr {q : Nat} (hq : q = SQ ∨ q = DQ) {enc : Nat → Str} {s : Str}
    (henc : ∀ c ∈ s, ReprEnc false q c (enc c)) (hs : WfStr s) :
    evalLit ([q] ++ s.flatMap enc ++ [q]) = some s :=
  (evalLit_single hq _ (flatMap_repr_ne hq henc)).trans (evalBody_repr hq henc hs)

theorem evalBytesLit_repr {q : Nat} (hq : q = SQ ∨ q = DQ) {enc : Nat → Str} {s : Str}
    (henc : ∀ c ∈ s, ReprEnc true q c (enc c)) (hs : WfStr s) :
    evalBytesLit ([98, q] ++ s.flatMap enc ++ [q]) = some s :=
  (evalBytesLit_single hq _ (flatMap_repr_ne hq henc)).trans (evalBody_repr hq henc hs)


-- the two equations of `replaceSpNl` under names of our own: a proof that names `replaceSpNl.eq_2` has it
-- built anew

theorem replaceSpNl_sp_nl (X : Str) : replaceSpNl (32 :: 10 :: X) = [SP, BS, 110, BS, NL] ++ replaceSpNl X :=
  rfl

theorem replaceSpNl_cons {c : Nat} {X : Str} (h : ∀ r, c = 32 → X = 10 :: r → False) :
    replaceSpNl (c :: X) = c :: replaceSpNl X :=
  replaceSpNl.eq_2 c X h

theorem replaceSpNl_append_of_not_mem (t X : Str) (h : 32 ∉ t) : replaceSpNl (t ++ X) = t ++ replaceSpNl X := by
  induction t with
  | nil => rfl
  | cons a t ih =>
    rw [List.mem_cons, not_or] at h
    rw [List.cons_append, replaceSpNl_cons fun _ ha _ => h.1 ha.symm, ih h.2, List.cons_append]

theorem replaceSpNl_eq_cons {a : Nat} (ha : a ≠ 32) {X Z : Str} (h : replaceSpNl X = a :: Z) :
    ∃ X', X = a :: X' ∧ Z = replaceSpNl X' := by
  induction X using replaceSpNl.induct with
  | case1 rest _ => exact absurd (List.cons.inj h).1.symm ha
  | case2 c rest hne _ =>
    rw [replaceSpNl_cons hne] at h
    cases h
    exact ⟨rest, rfl, rfl⟩
  | case3 => cases h

theorem replaceSpNl_append (A T : Str) (h : T.head? ≠ some 10) :
    replaceSpNl (A ++ T) = replaceSpNl A ++ replaceSpNl T := by
  induction A using replaceSpNl.induct with
  | case1 rest ih =>
    rw [List.cons_append, List.cons_append, replaceSpNl_sp_nl, replaceSpNl_sp_nl, ih, List.append_assoc]
  | case2 c rest hne ih =>
    rw [List.cons_append, replaceSpNl_cons hne, replaceSpNl_cons (X := rest ++ T), ih, List.cons_append]
    intro r hc hr
    cases rest with
    | nil => exact h (congrArg List.head? hr)
    | cons d rest' => exact hne rest' hc (by cases hr; rfl)
  | case3 => rfl

theorem isInfix_iff (p X : Str) : isInfix p X = true ↔ p <:+: X := by
  induction X with
  | nil => simp [isInfix]
  | cons c cs ih =>
    rw [isInfix, Bool.or_eq_true, ih, List.infix_cons_iff, List.isPrefixOf_iff_prefix]

theorem triple_infix_cons {q c : Nat} {Y : Str} (h : triple q <:+: c :: Y) :
    (c = q ∧ ∃ Z, Y = q :: q :: Z) ∨ triple q <:+: Y := by
  refine (List.infix_cons_iff.1 h).imp_left ?_
  rintro ⟨Z, hZ⟩
  simp [triple] at hZ
  exact ⟨hZ.1.symm, Z, hZ.2.symm⟩

theorem triple_infix_append_of_not_mem {q : Nat} (t X : Str) (ht : q ∉ t) (h : triple q <:+: t ++ X) :
    triple q <:+: X := by
  induction t with
  | nil => exact h
  | cons a t ih =>
    rw [List.mem_cons, not_or] at ht
    rcases triple_infix_cons h with ⟨rfl, _⟩ | h
    · exact absurd rfl ht.1
    · exact ih ht.2 h

theorem triple_infix_snoc2 {q a b : Nat} (X : Str) (hn : a = q → X.getLast? ≠ some q)
    (h : triple q <:+: X ++ [a, b]) : triple q <:+: X := by
  -- read from the end, by `triple_infix_cons`: `qqq` is its own reverse
  have hr : ∀ {Y : Str}, triple q <:+: Y.reverse ↔ triple q <:+: Y := List.reverse_infix (l₁ := triple q)
  have hl : ∀ Z, X.reverse = q :: Z → X.getLast? = some q := fun Z hZ => by
    rw [← List.head?_reverse, hZ]; rfl
  rw [← hr, List.reverse_append] at h
  rcases triple_infix_cons h with ⟨-, Z, hZ⟩ | h
  · obtain ⟨rfl, hZ⟩ := List.cons.inj hZ
    exact absurd (hl _ hZ) (hn rfl)
  rcases triple_infix_cons h with ⟨rfl, Z, hZ⟩ | h
  · exact absurd (hl _ hZ) (hn rfl)
  · exact hr.1 h

theorem triple_infix_replaceSpNl {q : Nat} (hq : q = SQ ∨ q = DQ) (X : Str)
    (h : triple q <:+: replaceSpNl X) : triple q <:+: X := by
  have hq32 : q ≠ 32 := by rcases hq with rfl | rfl <;> decide
  induction X using replaceSpNl.induct with
  | case1 rest ih =>
    rw [replaceSpNl_sp_nl] at h
    have := ih (triple_infix_append_of_not_mem _ _ (by rcases hq with rfl | rfl <;> decide) h)
    exact this.trans (List.suffix_append [32, 10] rest).isInfix
  | case2 c rest hne ih =>
    rw [replaceSpNl_cons hne] at h
    rcases triple_infix_cons h with ⟨rfl, Z, hZ⟩ | h
    · obtain ⟨X1, rfl, hZ1⟩ := replaceSpNl_eq_cons hq32 hZ
      obtain ⟨X2, rfl, _⟩ := replaceSpNl_eq_cons hq32 hZ1.symm
      exact ⟨[], X2, rfl⟩
    · exact List.infix_cons (ih h)
  | case3 => exact h

theorem triple_infix_flatMap {enc : Nat → Str} {q : Nat} (henc : enc q = [q]) (s : Str)
    (h : triple q <:+: s) : triple q <:+: s.flatMap enc := by
  obtain ⟨A, B, rfl⟩ := h
  simp only [List.flatMap_append, triple, List.flatMap_cons, List.flatMap_nil, henc]
  exact ⟨_, _, rfl⟩

theorem Dec.cont {q : Nat} (hq : q = SQ ∨ q = DQ) (R : Str) : Dec false q true [BS, NL] [] R :=
  Dec.one fun _ _ => evalBody_cont _ _ _ _ _ _ hq

/-- In a triple-quoted literal a text decodes in front of every continuation whose first two characters
    complete no `qqq` with it; texts of that kind can be put one after the other (`DecT.append`), which `Dec`
    alone cannot say of a text that ends in an unescaped quote. -/
def DecT (q : Nat) (text v : Str) : Prop :=
  ∀ R, ¬ triple q <:+: text ++ R.take 2 → Dec false q true text v R

theorem DecT.of_dec {q : Nat} {t v : Str} (h : ∀ R, Dec false q true t v R) : DecT q t v := fun R _ => h R

theorem DecT.append {q : Nat} {t1 v1 t2 v2 : Str} (h1 : DecT q t1 v1) (h2 : DecT q t2 v2) :
    DecT q (t1 ++ t2) (v1 ++ v2) := fun R hno => by
  rw [List.append_assoc] at hno
  refine Dec.append (h1 _ fun hi => hno (hi.trans ?_)) (h2 R fun hi => hno (hi.trans ?_))
  · have : (t2 ++ R).take 2 = (t2 ++ R.take 2).take 2 := by
      rw [List.take_append, List.take_append, List.take_take, Nat.min_eq_left (Nat.sub_le ..)]
    rw [this]
    exact (List.prefix_append_right_inj t1).2 (List.take_prefix ..) |>.isInfix
  · exact (List.suffix_append ..).isInfix

theorem DecT.plain {q c : Nat} (h : c ≠ BS) : DecT q [c] [c] := fun R hno =>
  Dec.plain h (fun _ => rfl) fun hcq => ⟨rfl, fun r hR => hno ⟨[], [], by subst hcq hR; rfl⟩⟩

section body
-- `enc` stands for `escapeChar printable extra`; `henc`, `hsp`, `hnl` are all that is used of it
variable {enc : Nat → Str} {q : Nat} (henc : ∀ c, Enc (c ≠ BS) (c = SQ ∨ c = DQ) false c (enc c))
include henc

theorem sp_not_mem_enc (c : Nat) (hc : c ≠ 32) : 32 ∉ enc c := fun hm => by
  rcases (henc c).mem hm with h | ⟨h, _⟩
  · exact absurd h (by decide)
  · exact hc h.symm

theorem head_flatMap_enc {x : Nat} (hx : x ≠ BS) {s Z : Str} (h : s.flatMap enc = x :: Z) :
    ∃ s1, s = x :: s1 ∧ enc x = [x] ∧ Z = s1.flatMap enc := by
  cases s with
  | nil => cases h
  | cons c s1 =>
    rw [List.flatMap_cons] at h
    rcases (henc c).head with ⟨h1, _⟩ | ⟨u, h1⟩ <;> rw [h1] at h <;> cases h
    · exact ⟨s1, rfl, h1, rfl⟩
    · exact absurd rfl hx

theorem triple_infix_of_flatMap (hq : q = SQ ∨ q = DQ) (s : Str) (h : triple q <:+: s.flatMap enc) :
    enc q = [q] ∧ triple q <:+: s := by
  have hqb := (bs_ne_quote hq).symm
  induction s with
  | nil => have := h.length_le; simp [triple] at this
  | cons c s ih =>
    rw [List.flatMap_cons] at h
    -- a `q` written for `c` is its last character: a `qqq` not within the rest begins there
    have hc : (c = q ∧ ∃ Z, s.flatMap enc = q :: q :: Z) ∨ triple q <:+: s.flatMap enc := by
      by_cases hm : q ∈ enc c
      · rcases (henc c).mem hm with h48 | ⟨rfl, ⟨h1, _⟩ | ⟨h1, _⟩⟩
        · rcases hq with rfl | rfl <;> exact absurd h48 (by decide)
        · rw [h1] at h
          exact triple_infix_cons h
        · rw [h1] at h
          exact triple_infix_cons (triple_infix_append_of_not_mem [BS] _ (by simp; exact hqb) h)
      · exact .inr (triple_infix_append_of_not_mem _ _ hm h)
    rcases hc with ⟨rfl, Z, hZ⟩ | h
    · obtain ⟨s1, rfl, h1, hZ1⟩ := head_flatMap_enc henc hqb hZ
      obtain ⟨s2, rfl, _, _⟩ := head_flatMap_enc henc hqb hZ1.symm
      exact ⟨h1, [], s2, rfl⟩
    · exact (ih h).imp_right List.infix_cons

variable (hq : q = SQ ∨ q = DQ)
include hq

theorem decT_enc {c : Nat} (hc : c < 0x110000) : DecT q (enc c) [c] := fun R hno =>
  (henc c).dec hq hc id fun h1 ht => DecT.plain h1 R (ht ▸ hno)

variable (hsp : enc 32 = [32]) (hnl : enc 10 = [10])
include hsp hnl

theorem DecT.body (s : Str) (hwf : WfStr s) : DecT q (replaceSpNl (s.flatMap enc)) s := by
  induction s using replaceSpNl.induct with
  | case1 s ih =>
    rw [List.flatMap_cons, List.flatMap_cons, hsp, hnl, List.singleton_append, List.singleton_append,
      replaceSpNl_sp_nl]
    -- `" \n"` was written as blank, `\n` escaped, backslash-newline: they decode to blank, newline, nothing
    exact (DecT.plain (by decide)).append (t1 := [32]) (v1 := [32])
      ((DecT.of_dec (Esc.nl.dec hq (by decide) _)).append (t1 := [BS, 110]) (v1 := [10])
        ((DecT.of_dec (Dec.cont hq)).append (v1 := []) (ih fun x hx => hwf x (.tail _ (.tail _ hx)))))
  | case2 c s hne ih =>
    -- a character that does not begin a `" \n"` passes through `replaceSpNl` as it is
    have key : replaceSpNl ((c :: s).flatMap enc) = enc c ++ replaceSpNl (s.flatMap enc) := by
      rw [List.flatMap_cons]
      by_cases hc : c = 32
      · subst hc
        rw [hsp]
        exact replaceSpNl_cons fun r _ hr => by
          obtain ⟨s1, rfl, -⟩ := head_flatMap_enc henc (by decide) hr
          exact hne s1 rfl rfl
      · exact replaceSpNl_append_of_not_mem _ _ (sp_not_mem_enc henc c hc)
    rw [key]
    exact (decT_enc henc hq (hwf c (.head _))).append (v1 := [c]) (ih fun x hx => hwf x (.tail _ hx))
  | case3 => exact .of_dec (Dec.nil false q true)

/-- the same with an escaped quote after it (`strLiteralHelper` does that to a final quote) -/
theorem DecT.body_quote (s : Str) (hwf : WfStr s) :
    DecT q (replaceSpNl (s.flatMap enc ++ [BS, q])) (s ++ [q]) := by
  have hbq : replaceSpNl [BS, q] = [BS, q] := by rcases hq with rfl | rfl <;> rfl
  rw [replaceSpNl_append _ _ (by simp [BS]), hbq]
  exact (DecT.body henc hq hsp hnl s hwf).append (.of_dec fun _ => Dec.one fun _ _ => evalBody_quote hq hq ..)

end body

/-- what `triple_quote` puts between the quotes, `E` being the escaped text -/
def tqBody (E : Str) : Str :=
  if ([BS, NL] ++ replaceSpNl E).getLast? = some NL then [BS, NL] ++ replaceSpNl E
  else [BS, NL] ++ replaceSpNl E ++ [BS, NL]

theorem DecT.tqBody {q : Nat} (hq : q = SQ ∨ q = DQ) {E s : Str} (hno : ¬ triple q <:+: replaceSpNl E)
    (h : DecT q (replaceSpNl E) s) : Dec false q true (tqBody E) s (triple q) := by
  unfold ISnap.StrLit.tqBody
  refine ite_elim (P := fun t => Dec false q true t s (triple q)) (fun hlast => ?_) fun _ => ?_
  · refine Dec.append (v1 := []) (Dec.cont hq _) (h (triple q) fun hi =>
      hno (triple_infix_snoc2 _ (fun _ hl => ?_) hi))
    rw [List.getLast?_append, hl] at hlast
    rcases hq with rfl | rfl <;> cases hlast
  · have := h ([BS, NL] ++ triple q) fun hi =>
      hno (triple_infix_snoc2 _ (fun h => absurd h (bs_ne_quote hq)) hi)
    have := Dec.append (Dec.append (v1 := []) (Dec.cont hq _) this) (Dec.cont hq (triple q))
    rwa [List.append_nil] at this

theorem evalLit_triple_of_dec {q : Nat} (hq : q = SQ ∨ q = DQ) (body v : Str)
    (h : Dec false q true body v (triple q)) : evalLit (triple q ++ body ++ triple q) = some v :=
  (if_pos hq).trans ((if_pos ⟨rfl, rfl⟩).trans (Dec.finish h fun _ _ => evalBody_close_triple ..))

section escapeChar
variable (printable : Nat → Bool) (extra : Option Nat)

theorem escapeChar_sp (hextra : ∀ e, extra = some e → e = SQ ∨ e = DQ) :
    escapeChar printable extra 32 = [32] := by
  unfold escapeChar
  rw [if_neg (by decide)]
  refine ite_elim (P := (· = [32])) (fun _ => rfl) fun _ => ite_elim (P := (· = [32])) (fun h => ?_) fun _ => rfl
  rcases hextra 32 h.symm with h | h <;> cases h

theorem escapeChar_nl : escapeChar printable extra 10 = [10] := if_pos (.inl rfl)

theorem escapeChar_quote {q : Nat} (hq : q = SQ ∨ q = DQ) :
    escapeChar printable extra q = if some q = extra ∧ printable q = true then [BS, q] else [q] := by
  have hu : unicodeEscape q = [q] := by rcases hq with rfl | rfl <;> rfl
  unfold escapeChar
  rw [if_neg (by rcases hq with rfl | rfl <;> decide), hu]
  by_cases hp : printable q = true
  · rw [if_neg (not_or.2 ⟨(bs_ne_quote hq).symm, fun h => h hp⟩)]
    simp only [hp, and_true]
  · rw [if_pos (.inr hp), if_neg (fun h => hp h.2)]

end escapeChar

/-- the `extra` quote character of `_str_literal_helper` -/
def extraOf (s : Str) : Option Nat :=
  if isInfix (triple SQ) s ∧ isInfix (triple DQ) s then
    some (if s.count SQ ≥ s.count DQ then DQ else SQ)
  else none

theorem extraOf_eq_some {s : Str} {e : Nat} (h : extraOf s = some e) :
    (e = SQ ∨ e = DQ) ∧ triple SQ <:+: s ∧ triple DQ <:+: s := by
  unfold extraOf at h
  by_cases hb : isInfix (triple SQ) s ∧ isInfix (triple DQ) s
  · rw [if_pos hb] at h
    cases h
    exact ⟨ite_elim (P := fun e => e = SQ ∨ e = DQ) (fun _ => .inr rfl) fun _ => .inl rfl,
      (isInfix_iff _ _).1 hb.1, (isInfix_iff _ _).1 hb.2⟩
  · rw [if_neg hb] at h; cases h

theorem extraOf_quote (s : Str) : ∀ e, extraOf s = some e → e = SQ ∨ e = DQ :=
  fun _ h => (extraOf_eq_some h).1

theorem extraOf_eq_none {s : Str} (h : extraOf s = none) : ¬ (triple SQ <:+: s ∧ triple DQ <:+: s) := by
  intro hb
  unfold extraOf at h
  rw [if_pos ⟨(isInfix_iff _ _).2 hb.1, (isInfix_iff _ _).2 hb.2⟩] at h
  cases h

/-- `escOf`, `possOf`: the `esc` and `poss` of `strLiteralHelper` -/
def escOf (printable : Nat → Bool) (s : Str) : Str := s.flatMap (escapeChar printable (extraOf s))

def possOf (printable : Nat → Bool) (s : Str) : List Nat :=
  [DQ, SQ].filter (fun q => !isInfix (triple q) (escOf printable s))

theorem mem_possOf {printable : Nat → Bool} {s : Str} {q : Nat} :
    q ∈ possOf printable s ↔ (q = SQ ∨ q = DQ) ∧ ¬ triple q <:+: escOf printable s := by
  unfold possOf
  rw [List.mem_filter, ← isInfix_iff]
  simp [or_comm]

/-- the order of the possible quotes is left open, except for the one that comes first when the final
    quote is escaped -/
theorem strLiteralHelper_spec (printable : Nat → Bool) (s : Str) :
    ∃ E poss, strLiteralHelper printable s = (E, poss) ∧ (∀ x, x ∈ poss ↔ x ∈ possOf printable s) ∧
      (E = escOf printable s ∨ ∃ q, poss.head? = some q ∧ E = (escOf printable s).dropLast ++ [BS, q] ∧
        (escOf printable s).getLast? = some q ∧ s.getLast? ≠ extraOf s) := by
  have hm : ∀ last x, x ∈ (possOf printable s).filter (· ≠ last) ++ (possOf printable s).filter (· = last) ↔
      x ∈ possOf printable s := fun last x => by
    by_cases h : x = last <;> simp [h]
  unfold strLiteralHelper
  simp only [← extraOf.eq_1, ← escOf.eq_1, ← possOf.eq_1]
  split
  · exact ⟨_, _, rfl, fun _ => Iff.rfl, .inl rfl⟩
  · next last hlast =>
    split
    · next q0 tl hp =>
      split
      · next hc =>
        exact ⟨_, _, rfl, hm last, .inr ⟨q0, by rw [hp]; rfl, by rw [hc.1], hc.1 ▸ hlast, hc.2⟩⟩
      · exact ⟨_, _, rfl, hm last, .inl rfl⟩
    · exact ⟨_, _, rfl, hm last, .inl rfl⟩

theorem tripleQuote_cases (printable : Nat → Bool) (s : Str) :
    tripleQuote printable s = none ∧ possOf printable s = [] ∨
    ∃ q E, tripleQuote printable s = some (triple q ++ tqBody E ++ triple q) ∧ q ∈ possOf printable s ∧
      (E = escOf printable s ∨ E = (escOf printable s).dropLast ++ [BS, q] ∧
        (escOf printable s).getLast? = some q ∧ s.getLast? ≠ extraOf s) := by
  obtain ⟨E, poss, he, hm, hE⟩ := strLiteralHelper_spec printable s
  unfold tripleQuote
  rw [he]
  cases poss with
  | nil =>
    refine .inl ⟨rfl, ?_⟩
    cases hp : possOf printable s with
    | nil => rfl
    | cons a l => exact nomatch (hm a).2 (hp ▸ List.mem_cons_self)
  | cons q r =>
    refine .inr ⟨q, E, rfl, (hm q).1 List.mem_cons_self, hE.imp_right ?_⟩
    rintro ⟨q', hq', h⟩
    cases hq'
    exact h

theorem mem_possOf_iff {printable : Nat → Bool} {s : Str} {q : Nat} :
    q ∈ possOf printable s ↔
      (q = SQ ∨ q = DQ) ∧ (triple q <:+: s → extraOf s = some q ∧ printable q = true) := by
  refine mem_possOf.trans (and_congr_right fun hq => ⟨fun hno hs => ?_, fun h hi => ?_⟩)
  · by_cases hx : some q = extraOf s ∧ printable q = true
    · exact ⟨hx.1.symm, hx.2⟩
    · exact absurd (triple_infix_flatMap (by rw [escapeChar_quote _ _ hq, if_neg hx]) s hs) hno
  · obtain ⟨h1, h2⟩ := triple_infix_of_flatMap
      (fun c => (escapeChar_enc printable _ c).mono id (extraOf_quote s c)) hq s hi
    obtain ⟨hx, hp⟩ := h h2
    rw [escapeChar_quote _ _ hq, if_pos ⟨hx.symm, hp⟩] at h1
    cases h1

theorem possOf_ne_nil_iff (printable : Nat → Bool) (s : Str) :
    possOf printable s ≠ [] ↔ ∀ e, extraOf s = some e → printable e = true := by
  constructor
  · intro hne e he
    obtain ⟨q, hmem⟩ := List.exists_mem_of_ne_nil _ hne
    obtain ⟨hq, h⟩ := mem_possOf_iff.1 hmem
    obtain ⟨_, hS, hD⟩ := extraOf_eq_some he
    obtain ⟨hx, hp⟩ := h (by rcases hq with rfl | rfl; exact hS; exact hD)
    cases he.symm.trans hx
    exact hp
  · intro hp
    cases hx : extraOf s with
    | some e =>
      exact List.ne_nil_of_mem (mem_possOf_iff.2 ⟨extraOf_quote s e hx, fun _ => ⟨hx, hp e hx⟩⟩)
    | none =>
      by_cases h1 : triple SQ <:+: s
      · exact List.ne_nil_of_mem (a := DQ)
          (mem_possOf_iff.2 ⟨.inr rfl, fun h2 => absurd ⟨h1, h2⟩ (extraOf_eq_none hx)⟩)
      · exact List.ne_nil_of_mem (a := SQ) (mem_possOf_iff.2 ⟨.inl rfl, fun h => absurd h h1⟩)

theorem tripleQuote_isSome_iff_possOf (printable : Nat → Bool) (s : Str) :
    (tripleQuote printable s).isSome ↔ possOf printable s ≠ [] := by
  rcases tripleQuote_cases printable s with ⟨h, h0⟩ | ⟨q, E, h, hmem, _⟩ <;> rw [h]
  · exact ⟨fun h => (nomatch h), fun h => absurd h0 h⟩
  · exact ⟨fun _ => List.ne_nil_of_mem hmem, fun _ => rfl⟩

/-- the round trip at the level of `Dec`: whatever quote and escaped text the helper returns -/
theorem Dec.tqBody_helper (printable : Nat → Bool) (s : Str) (h : WfStr s) {q : Nat} {E : Str}
    (hmem : q ∈ possOf printable s)
    (hE : E = escOf printable s ∨ E = (escOf printable s).dropLast ++ [BS, q] ∧
      (escOf printable s).getLast? = some q ∧ s.getLast? ≠ extraOf s) :
    Dec false q true (StrLit.tqBody E) s (triple q) := by
  obtain ⟨hq, hno⟩ := mem_possOf.1 hmem
  have henc := escapeChar_enc printable (extraOf s)
  have henc' := fun c => (henc c).mono id (extraOf_quote s c)
  have hsp := escapeChar_sp printable _ (extraOf_quote s)
  have hnl := escapeChar_nl printable (extraOf s)
  rcases hE with rfl | ⟨rfl, hlast, hne⟩
  · exact DecT.tqBody hq (fun hi => hno (triple_infix_replaceSpNl hq _ hi)) (DecT.body henc' hq hsp hnl s h)
  -- the final quote was escaped: `s = s0 ++ [q]`, and `escapeChar` wrote that `q` as itself
  obtain rfl | ⟨s0, c, hs⟩ : s = [] ∨ ∃ s0 c, s = s0 ++ [c] := by
    simpa only [List.concat_eq_append] using List.eq_nil_or_concat s
  · cases hlast
  have hesc : escOf printable s = s0.flatMap (escapeChar printable (extraOf s)) ++
      escapeChar printable (extraOf s) c := by
    unfold escOf; rw [hs, List.flatMap_append, List.flatMap_singleton, ← hs]
  rw [hesc] at hlast hno ⊢
  have hm : q ∈ escapeChar printable (extraOf s) c := by
    rw [List.getLast?_append] at hlast
    cases hl : (escapeChar printable (extraOf s) c).getLast? with
    | none => rcases (henc c).head with ⟨h1, _⟩ | ⟨u, h1⟩ <;> rw [h1] at hl <;> cases hl
    | some x => rw [hl] at hlast; cases hlast; exact List.mem_of_getLast? hl
  rcases (henc c).mem hm with h48 | ⟨rfl, ⟨h1, _⟩ | ⟨_, hx⟩⟩
  · rcases hq with rfl | rfl <;> exact absurd h48 (by decide)
  · rw [h1] at hno ⊢
    rw [List.dropLast_concat]
    subst hs
    exact DecT.tqBody hq
      (fun hi => hno ((triple_infix_snoc2 _ (absurd · (bs_ne_quote hq)) (triple_infix_replaceSpNl hq _ hi)).trans
        (List.prefix_append _ _).isInfix))
      (DecT.body_quote henc' hq hsp hnl s0 fun x hx => h x (List.mem_append_left _ hx))
  · exact absurd (by rw [hx, hs, List.getLast?_concat]) hne

end ISnap.StrLit
