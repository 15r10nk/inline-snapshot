/-
  Going through an `if` by hand.  `split` re-simplifies the whole goal at every branch, so on a chain of `if`s
  its cost doubles with each further branch; one application of `ite_elim` per branch does not.
-/
namespace ISnap

theorem ite_elim {α : Sort _} {P : α → Prop} {k : Prop} [Decidable k] {a b : α}
    (ha : k → P a) (hb : ¬ k → P b) : P (if k then a else b) := by
  by_cases h : k
  · rw [if_pos h]; exact ha h
  · rw [if_neg h]; exact hb h

end ISnap
