import ISnap.Model.CallAssign
import ISnap.Lemmas.AssignLemmas
import ISnap.Lemmas.Weave
/-
  `assignCall` in closed form, the twin of `Assign.dictOut`: what becomes of each old keyword (`oldOne`,
  `oldOneCats`), the keywords written for the non-default fields that have none (`newKw`: exactly what the
  groups of `inserts` hold), and `weave` as an instance of `Weave.weaveG`.
-/
namespace ISnap.CallAssign
open ISnap ISnap.Assign List

theorem lookupF_mem {name : Nat} {fields : List Field} {v : Val} {d : Bool}
    (h : lookupF name fields = some (v, d)) : (name, v, d) ∈ fields := by
  induction fields with
  | nil => cases h
  | cons f rest ih =>
    obtain ⟨n, w, b⟩ := f
    unfold lookupF at h
    by_cases hn : n = name
    · rw [if_pos hn] at h; cases h; rw [hn]; exact mem_cons_self
    · rw [if_neg hn] at h; exact mem_cons_of_mem _ (ih h)

theorem lookupF_none {name : Nat} {fields : List Field} (h : lookupF name fields = none) :
    name ∉ fields.map (·.1) := by
  induction fields with
  | nil => exact not_mem_nil
  | cons f rest ih =>
    obtain ⟨n, w, b⟩ := f
    unfold lookupF at h
    by_cases hn : n = name
    · rw [if_pos hn] at h; cases h
    · rw [if_neg hn] at h
      rw [map_cons, mem_cons, not_or]
      exact ⟨fun hh => hn hh.symm, ih h⟩

theorem pair_unique {α β : Type} {l : List (α × β)} (hn : (l.map (·.1)).Nodup) {a : α} {x y : β}
    (hx : (a, x) ∈ l) (hy : (a, y) ∈ l) : x = y := by
  have h := pairwise_map.1 hn
  exact (Prod.mk.inj (Pairwise.forall_of_forall_of_flip (R := fun p q : α × β => p.1 = q.1 → p = q)
    (fun _ _ _ => rfl) (h.imp fun h e => absurd e h) (h.imp fun h e => absurd e.symm h) hx hy rfl)).2

theorem lookupF_of_mem {name : Nat} {fields : List Field} {v : Val} {d : Bool}
    (hn : (fields.map (·.1)).Nodup) (h : (name, v, d) ∈ fields) :
    lookupF name fields = some (v, d) := by
  cases h' : lookupF name fields with
  | none => exact absurd (mem_map.2 ⟨_, h, rfl⟩) (lookupF_none h')
  | some w => exact congrArg some (pair_unique hn (lookupF_mem h') h)

/-- what becomes of one old keyword (`none` = deleted) -/
def oldOne (F : Flags) (fields : List Field) (p : Nat × Expr) : Option (Nat × Expr) :=
  match lookupF p.1 fields with
  | some (v, false) => some (p.1, (assign F p.2 v).expr)
  | some (v, true) =>
    if F.has (if pyEq (eval p.2) v then Cat.update else Cat.fix) then none else some p
  | none => if F.fix then none else some p

def oldOneCats (F : Flags) (fields : List Field) (p : Nat × Expr) : Flags :=
  match lookupF p.1 fields with
  | some (v, false) => (assign F p.2 v).cats
  | some (v, true) => Flags.single (if pyEq (eval p.2) v then Cat.update else Cat.fix)
  | none => Flags.single .fix

theorem oldKeywords_eq (F : Flags) (kw : List (Nat × Expr)) (fields : List Field) :
    oldKeywords F kw fields =
      ((kw.map (oldOneCats F fields)).foldr unionCats Flags.empty, kw.map (oldOne F fields)) := by
  induction kw with
  | nil => rfl
  | cons p rest ih =>
    obtain ⟨name, e⟩ := p
    unfold oldKeywords
    rcases h : lookupF name fields with _ | ⟨v, _ | _⟩ <;>
      simp only [ih, oldOne, oldOneCats, h, map_cons, foldr_cons, unionCats]

theorem oldOne_matched {F : Flags} {fields : List Field} {p : Nat × Expr} {v : Val}
    (h : lookupF p.1 fields = some (v, false)) :
    oldOne F fields p = some (p.1, (assign F p.2 v).expr) := by
  unfold oldOne; rw [h]

theorem oldOneCats_matched {F : Flags} {fields : List Field} {p : Nat × Expr} {v : Val}
    (h : lookupF p.1 fields = some (v, false)) : oldOneCats F fields p = (assign F p.2 v).cats := by
  unfold oldOneCats; rw [h]
theorem oldOneCats_default {F : Flags} {fields : List Field} {p : Nat × Expr} {v : Val}
    (h : lookupF p.1 fields = some (v, true)) :
    oldOneCats F fields p = Flags.single (if pyEq (eval p.2) v then Cat.update else Cat.fix) := by
  unfold oldOneCats; rw [h]
theorem oldOneCats_none {F : Flags} {fields : List Field} {p : Nat × Expr}
    (h : lookupF p.1 fields = none) : oldOneCats F fields p = Flags.single .fix := by
  unfold oldOneCats; rw [h]

theorem oldOne_eq_some {F : Flags} {fields : List Field} {p q : Nat × Expr} :
    oldOne F fields p = some q ↔
      (∃ v, lookupF p.1 fields = some (v, false) ∧ (p.1, (assign F p.2 v).expr) = q) ∨
      (p = q ∧ ((∃ v, lookupF p.1 fields = some (v, true) ∧
          F.has (if pyEq (eval p.2) v then Cat.update else Cat.fix) = false) ∨
        (lookupF p.1 fields = none ∧ F.fix = false))) := by
  unfold oldOne
  rcases lookupF p.1 fields with _ | ⟨v, _ | _⟩ <;> simp [and_comm]

theorem oldOne_name {F : Flags} {fields : List Field} {p q : Nat × Expr}
    (h : oldOne F fields p = some q) : q.1 = p.1 := by
  rcases oldOne_eq_some.1 h with ⟨v, _, rfl⟩ | ⟨rfl, _⟩ <;> rfl

def keptKw (F : Flags) (kw : List (Nat × Expr)) (fields : List Field) : List (Nat × Expr) :=
  kw.filterMap (oldOne F fields)

theorem keptKw_names_sublist (F : Flags) (kw : List (Nat × Expr)) (fields : List Field) :
    ((keptKw F kw fields).map (·.1)).Sublist (kw.map (·.1)) := by
  rw [map_eq_flatMap, map_eq_flatMap]
  exact Weave.sublist_flatMap_filterMap _ _ kw fun p _ q hq => by rw [oldOne_name hq]; exact Sublist.refl _

/-- new non-default fields without keyword, in field order -/
def newFields (oldNames : List Nat) (fields : List Field) : List (Nat × Val) :=
  (fields.filter (fun f => !f.2.2 && !oldNames.contains f.1)).map (fun f => (f.1, f.2.1))

theorem inserts_flat (oldNames : List Nat) : ∀ (fields : List Field) (off : Nat) (pending : List (Nat × Val)),
    (inserts oldNames fields off pending).flatMap (·.2) = pending ++ newFields oldNames fields
  | [], off, pending => rfl
  | (name, v, d) :: rest, off, pending => by
    unfold inserts newFields
    rw [filter_cons]
    -- once `d` and `contains` are known both sides compute to the corresponding step of the recursion
    cases d with
    | true => exact inserts_flat oldNames rest off pending
    | false =>
      cases hc : oldNames.contains name with
      | true => exact congrArg (pending ++ ·) (inserts_flat oldNames rest off [])
      | false => exact (inserts_flat oldNames rest off _).trans (append_assoc ..)

def insG (p : Nat × List (Nat × Val)) : List (Nat × Expr) := p.2.map (fun kv => (kv.1, canon kv.2))

/-- the keywords written for the new fields, in field order -/
def newKw (kw : List (Nat × Expr)) (fields : List Field) : List (Nat × Expr) :=
  (newFields (kw.map (·.1)) fields).map (fun kv => (kv.1, canon kv.2))

theorem inserts_newKw (kw : List (Nat × Expr)) (fields : List Field) :
    (inserts (kw.map (·.1)) fields 0 []).flatMap insG = newKw kw fields := by
  rw [newKw, ← nil_append (newFields _ _), ← inserts_flat _ fields 0 [], map_flatMap]
  rfl

theorem mem_newKw {kw : List (Nat × Expr)} {fields : List Field} {q : Nat × Expr} :
    q ∈ newKw kw fields ↔
      ∃ v, q.2 = canon v ∧ (q.1, v, false) ∈ fields ∧ q.1 ∉ kw.map (·.1) := by
  simp only [newKw, newFields, map_map, mem_map, mem_filter, Bool.and_eq_true, Bool.not_eq_eq_eq_not,
    Bool.not_true, contains_eq_mem, decide_eq_false_iff_not, Function.comp]
  constructor
  · rintro ⟨⟨n, v, d⟩, ⟨hm, hd, hc⟩, rfl⟩
    cases hd
    exact ⟨v, rfl, hm, hc⟩
  · rintro ⟨v, h1, hm, hc⟩
    exact ⟨(q.1, v, false), ⟨hm, rfl, hc⟩, by rw [← h1]⟩

theorem newKw_names_sublist (kw : List (Nat × Expr)) (fields : List Field) :
    ((newKw kw fields).map (·.1)).Sublist (fields.map (·.1)) := by
  simp only [newKw, newFields, map_map]
  exact (filter_sublist (l := fields)).map _

theorem newKw_eq_nil {kw : List (Nat × Expr)} {fields : List Field}
    (hf : ∀ f ∈ fields, f.2.2 = false → f.1 ∈ kw.map (·.1)) : newKw kw fields = [] := by
  rw [eq_nil_iff_forall_not_mem]
  intro q hq
  obtain ⟨v, _, hm, hn⟩ := mem_newKw.1 hq
  exact hn (hf _ hm rfl)

theorem weave_eq (ins : List (Nat × List (Nat × Val))) : ∀ (os : List (Option (Nat × Expr))) (i : Nat),
    weave os ins i = Weave.weaveG (Weave.atPos insG ins) (Weave.fromPos insG ins) os i
  | [], _ => rfl
  | o :: os, i => by
    unfold weave Weave.weaveG
    rw [weave_eq ins os]
    cases o <;> rfl

theorem mem_woven {kw : List (Nat × Expr)} {fields : List Field} {i j : Nat} {q : Nat × Expr}
    (h : q ∈ Weave.atPos insG (inserts (kw.map (·.1)) fields 0 []) i ∨
      q ∈ Weave.fromPos insG (inserts (kw.map (·.1)) fields 0 []) j) : q ∈ newKw kw fields :=
  inserts_newKw kw fields ▸ Weave.mem_pos insG h

def unmLeavesKw (l : List (Nat × Expr)) : List Expr := l.flatMap (fun p => unmLeaves p.2)

end ISnap.CallAssign
