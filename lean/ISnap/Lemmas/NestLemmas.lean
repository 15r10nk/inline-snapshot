import ISnap.Model.Nest
/-
  Lemmas behind Props/C18b.lean: the text ranges edited for the surviving changes are pairwise disjoint.

  Two paths are comparable (one is a prefix of the other) or diverge at some index.  Geometry settles the
  diverging pairs: what lies within a node lies within the child of each ancestor it hangs under
  (`Inside.child`), and two children of one container are apart (`kidStart_lt`), hence `Inside.diverge`.
  The filter settles the comparable pairs: a surviving replacement is the only change that removes a node at
  or above its own (`replace_alone`), nothing removes a node at or above a touched container
  (`touched_alive`), and the stretches of a container keep clear of everything below a child that is not
  deleted (`Stretch.clear`).  Together: what is edited on account of two different nodes is
  disjoint (`EditedAt.disjoint`), whether the nodes are replaced or are containers that are rewritten.
-/
namespace ISnap.Nest

theorem path_cases (p q : Path) :
    (∃ r, q = p ++ r) ∨ (∃ r, p = q ++ r) ∨
    (∃ c i j r r', i ≠ j ∧ p = c ++ i :: r ∧ q = c ++ j :: r') := by
  induction p generalizing q with
  | nil => exact .inl ⟨q, rfl⟩
  | cons a p ih =>
    cases q with
    | nil => exact .inr (.inl ⟨a :: p, rfl⟩)
    | cons b q =>
      by_cases hab : a = b
      · subst hab
        rcases ih q with ⟨r, h⟩ | ⟨r, h⟩ | ⟨c, i, j, r, r', hij, h1, h2⟩
        · exact .inl ⟨r, congrArg (a :: ·) h⟩
        · exact .inr (.inl ⟨r, congrArg (a :: ·) h⟩)
        · exact .inr (.inr ⟨a :: c, i, j, r, r', hij, congrArg (a :: ·) h1, congrArg (a :: ·) h2⟩)
      · exact .inr (.inr ⟨[], a, b, p, q, hab, rfl, rfl⟩)

theorem disjoint_iff {a b : Nat × Nat} : disjoint a b = true ↔ a.2 ≤ b.1 ∨ b.2 ≤ a.1 := by
  simp [disjoint]

theorem kidStart_le (ks : List Tree) (o i : Nat) : o ≤ kidStart ks o i := by
  induction ks generalizing o i with
  | nil => cases i <;> exact Nat.le_refl _
  | cons k ks ih =>
    cases i with
    | zero => exact Nat.le_refl _
    | succ i => exact Nat.le_trans (Nat.le_succ_of_le (Nat.le_add_right o k.width)) (ih ..)

/-- `+ 1`: the gap behind the child -/
theorem kidStart_lt {ks : List Tree} {o i j : Nat} {a : Tree} (hi : ks[i]? = some a) (hij : i < j) :
    kidStart ks o i + a.width + 1 ≤ kidStart ks o j := by
  induction ks generalizing o i j with
  | nil => cases hi
  | cons k ks ih =>
    cases j with
    | zero => cases hij
    | succ j =>
      cases i with
      | zero =>
        cases hi
        exact kidStart_le ..
      | succ i => exact ih hi (Nat.lt_of_succ_lt_succ hij)

theorem kidStart_end {ks : List Tree} {o i : Nat} {a : Tree} (h : ks[i]? = some a) :
    kidStart ks o i + a.width + 1 ≤ o + widthL ks := by
  induction ks generalizing o i with
  | nil => cases h
  | cons k ks ih =>
    rw [widthL, ← Nat.add_assoc, ← Nat.add_assoc]
    cases i with
    | zero =>
      cases h
      exact Nat.le_add_right _ _
    | succ i => exact ih h

theorem locate_cons {t : Tree} {o i : Nat} {r : Path} {x : Tree × Nat}
    (h : locate t o (i :: r) = some x) :
    ∃ ks k, t = .node ks ∧ ks[i]? = some k ∧ locate k (kidStart ks (o + 2) i) r = some x := by
  cases t with
  | leaf => cases h
  | node ks =>
    unfold locate at h
    split at h
    · next k hk => exact ⟨ks, k, rfl, hk, h⟩
    · cases h

theorem locate_append (t : Tree) (o : Nat) (p q : Path) :
    locate t o (p ++ q) = (locate t o p).bind (fun x => locate x.1 x.2 q) := by
  induction p generalizing t o with
  | nil => rfl
  | cons i p ih =>
    simp only [List.cons_append, locate]
    split
    · exact ih ..
    · rfl

theorem locate_bounds {t : Tree} {o : Nat} {p : Path} {s : Tree} {o' : Nat}
    (h : locate t o p = some (s, o')) : o ≤ o' ∧ o' + s.width ≤ o + t.width := by
  induction p generalizing t o with
  | nil =>
    cases h
    exact ⟨Nat.le_refl _, Nat.le_refl _⟩
  | cons i p ih =>
    obtain ⟨ks, k, rfl, hk, hl⟩ := locate_cons h
    have b := ih hl
    have h1 := kidStart_le ks (o + 2) i
    have h2 := kidStart_end (o := o + 2) hk
    simp only [Tree.width]
    omega

def Inside (t : Tree) (p : Path) (x : Nat × Nat) : Prop :=
  ∃ s o, locate t 0 p = some (s, o) ∧ o ≤ x.1 ∧ x.2 ≤ o + s.width

theorem interval_inside {t : Tree} {p : Path} {a : Nat × Nat} (h : interval t p = some a) : Inside t p a := by
  simp only [interval] at h
  split at h
  · next s o hl => cases h; exact ⟨s, o, hl, Nat.le_refl _, Nat.le_refl _⟩
  · cases h

theorem Inside.child {t : Tree} {c : Path} {i : Nat} {r : Path} {x : Nat × Nat}
    (h : Inside t (c ++ i :: r) x) :
    ∃ ks oc k, locate t 0 c = some (.node ks, oc) ∧ ks[i]? = some k ∧
      kidStart ks (oc + 2) i ≤ x.1 ∧ x.2 ≤ kidStart ks (oc + 2) i + k.width := by
  obtain ⟨s, o, hl, h1, h2⟩ := h
  rw [locate_append] at hl
  cases hc : locate t 0 c with
  | none => simp [hc] at hl
  | some z =>
    rw [hc] at hl
    obtain ⟨ks, k, hz, hk, hl⟩ := locate_cons hl
    have b := locate_bounds hl
    exact ⟨ks, z.2, k, by rw [← hz], hk, Nat.le_trans b.1 h1, Nat.le_trans h2 b.2⟩

theorem Inside.diverge {t : Tree} {c : Path} {i j : Nat} {r r' : Path} {x y : Nat × Nat}
    (hx : Inside t (c ++ i :: r) x) (hy : Inside t (c ++ j :: r') y) (hij : i ≠ j) : disjoint x y = true := by
  obtain ⟨ks, oc, k1, hc, hk1, x1, x2⟩ := hx.child
  obtain ⟨ks', oc', k2, hc', hk2, y1, y2⟩ := hy.child
  rw [hc] at hc'
  cases hc'
  rcases Nat.lt_or_gt_of_ne hij with h | h
  · exact disjoint_iff.2 (.inl (Nat.le_trans x2 (Nat.le_trans (Nat.le_of_succ_le (kidStart_lt hk1 h)) y1)))
  · exact disjoint_iff.2 (.inr (Nat.le_trans y2 (Nat.le_trans (Nat.le_of_succ_le (kidStart_lt hk2 h)) x1)))

theorem stretches_cons (del : List Nat) (k : Tree) (ks : List Tree) (i o last : Nat) :
    stretches del (k :: ks) i o last = (if del.contains i then [] else [(last, o)]) ++
      stretches del ks (i + 1) (o + k.width + 1) (if del.contains i then last else o + k.width) := by
  show (if del.contains i then _ else _) = _
  cases del.contains i <;> rfl

theorem stretches_spec (del : List Nat) (ks : List Tree) (i o last : Nat) (hl : last ≤ o) :
    ∀ x ∈ stretches del ks i o last, last ≤ x.1 ∧ x.2 ≤ o + widthL ks ∧
      ∀ j k, ks[j]? = some k → del.contains (i + j) = false →
        (x.2 ≤ kidStart ks o j ∨ kidStart ks o j + k.width ≤ x.1) := by
  induction ks generalizing i o last with
  | nil =>
    intro x hx
    cases List.mem_singleton.1 hx
    exact ⟨Nat.le_refl _, Nat.le_refl _, fun _ _ hj => nomatch hj⟩
  | cons k ks ih =>
    intro x hx
    rw [stretches_cons, List.mem_append] at hx
    rcases hx with hx | hx
    · split at hx
      · cases hx
      · cases List.mem_singleton.1 hx
        exact ⟨Nat.le_refl _, Nat.le_add_right _ _, fun j _ _ _ => .inl (kidStart_le _ o j)⟩
    · -- the stretches behind `k` begin behind `k` if it is kept, and where they began otherwise
      have hl' : last ≤ (if del.contains i then last else o + k.width) ∧
          (if del.contains i then last else o + k.width) ≤ o + k.width := by
        split
        · exact ⟨Nat.le_refl _, Nat.le_trans hl (Nat.le_add_right _ _)⟩
        · exact ⟨Nat.le_trans hl (Nat.le_add_right _ _), Nat.le_refl _⟩
      obtain ⟨h1, h2, h3⟩ := ih (i + 1) (o + k.width + 1) _ (Nat.le_succ_of_le hl'.2) x hx
      refine ⟨Nat.le_trans hl'.1 h1, by rwa [widthL, ← Nat.add_assoc, ← Nat.add_assoc], fun j k' hj hnd => ?_⟩
      cases j with
      | zero =>
        cases hj
        rw [if_neg (by simpa using hnd)] at h1
        exact .inr h1
      | succ j => exact h3 j k' hj (by rwa [Nat.add_assoc, Nat.add_comm 1])

theorem stretches_pairwise (del : List Nat) (ks : List Tree) (i o last : Nat) (hl : last ≤ o) :
    (stretches del ks i o last).Pairwise (fun a b => disjoint a b = true) := by
  induction ks generalizing i o last with
  | nil => exact List.pairwise_singleton ..
  | cons k ks ih =>
    have ho : o ≤ o + k.width + 1 := Nat.le_succ_of_le (Nat.le_add_right _ _)
    unfold stretches
    split
    · exact ih _ _ _ (Nat.le_trans hl ho)
    · refine List.pairwise_cons.2 ⟨fun x hx => ?_, ih _ _ _ (Nat.le_succ _)⟩
      have := (stretches_spec del ks (i + 1) (o + k.width + 1) (o + k.width) (Nat.le_succ _) x hx).1
      exact disjoint_iff.2 (.inl (Nat.le_trans (Nat.le_add_right _ _) this))

/-- `x` is one of the stretches rewritten in the container at `c` -/
def Stretch (t : Tree) (s : List Edit) (c : Path) (x : Nat × Nat) : Prop :=
  ∃ ks o, locate t 0 c = some (.node ks, o) ∧ x ∈ stretches (deletedIn s c) ks 0 (o + 2) (o + 1)

theorem Stretch.inside {t : Tree} {s : List Edit} {c : Path} {x : Nat × Nat} (h : Stretch t s c x) :
    Inside t c x := by
  obtain ⟨ks, o, hl, hx⟩ := h
  obtain ⟨h1, h2, _⟩ := stretches_spec _ ks 0 (o + 2) (o + 1) (Nat.le_succ _) x hx
  exact ⟨_, o, hl, Nat.le_of_succ_le h1, by simp only [Tree.width]; omega⟩

theorem mem_survivors {all : List Edit} {e : Edit} :
    e ∈ survivors all ↔ e ∈ all ∧ insideRemoved all e = false := by
  simp [survivors]

theorem survivors_subset {all : List Edit} {e : Edit} (h : e ∈ survivors all) : e ∈ all :=
  (mem_survivors.1 h).1

theorem survivor_not_inside_all {all : List Edit} {e r : Edit} (he : e ∈ survivors all)
    (hr : r ∈ all) {q s : Path} (hq : r.removes = some q) (hs : e.walkStart = some s) :
    q.isPrefixOf s = false := by
  have h := (mem_survivors.1 he).2
  simp only [insideRemoved, hs] at h
  cases hqs : q.isPrefixOf s with
  | false => rfl
  | true =>
    have h' := List.any_eq_false.1 h r hr
    simp [hq, hqs] at h'

theorem no_inside {all : List Edit} {e r : Edit} {q x : Path} (he : e ∈ survivors all)
    (hr : r ∈ all) (hq : r.removes = some q) (hs : e.walkStart = some (q ++ x)) : False := by
  have := survivor_not_inside_all he hr hq hs
  rw [List.isPrefixOf_iff_prefix.2 (List.prefix_append _ _)] at this
  cases this

theorem touched_walk {s : List Edit} {c : Path} (h : c ∈ touched s) :
    ∃ e ∈ s, e.walkStart = some c := by
  obtain ⟨e, he, hc⟩ := List.mem_filterMap.1 (List.mem_eraseDups.1 h)
  refine ⟨e, he, ?_⟩
  match e, hc with
  | .delete (_ :: _), hc => exact hc
  | .insert _, hc => exact hc

theorem touched_alive {all : List Edit} {c q x : Path} {r : Edit} (hc : c ∈ touched (survivors all))
    (hr : r ∈ all) (hq : r.removes = some q) (hqc : c = q ++ x) : False := by
  obtain ⟨e, he, hew⟩ := touched_walk hc
  exact no_inside he hr hq (hqc ▸ hew)

theorem walkStart_replace {p : Path} (h : p ≠ []) : (Edit.replace p).walkStart = some p.dropLast := by
  cases p with
  | nil => exact absurd rfl h
  | cons a p => rfl

/-- `hrd`: no node is both replaced and deleted, a clause of `wellFormed` -/
theorem replace_alone {all : List Edit} (hrd : ∀ p, Edit.replace p ∈ all → Edit.delete p ∉ all)
    {p q x : Path} {r : Edit} (hp : Edit.replace p ∈ survivors all) (hr : r ∈ all)
    (hq : r.removes = some q) (hqp : p = q ++ x) : r = .replace p := by
  subst hqp
  cases x with
  | nil =>
    rw [List.append_nil] at hp ⊢
    cases r with
    | replace p' => rw [Option.some.inj hq]
    | delete p' => exact absurd (Option.some.inj hq ▸ hr) (hrd q (survivors_subset hp))
    | insert p' => cases hq
  | cons i x =>
    refine (no_inside (x := (i :: x).dropLast) hp hr hq ?_).elim
    rw [walkStart_replace (by simp), List.dropLast_append_cons]

theorem deletedIn_mem {s : List Edit} {c : Path} {i : Nat}
    (h : (deletedIn s c).contains i = true) : Edit.delete (c ++ [i]) ∈ s := by
  obtain ⟨e, he, hi⟩ := List.mem_filterMap.1 (List.contains_iff_mem.1 h)
  match e, hi with
  | .delete p, hi =>
    dsimp only at hi
    split at hi
    · next hp =>
      obtain ⟨ys, rfl⟩ := List.getLast?_eq_some_iff.1 hi
      rwa [← hp.2, List.dropLast_concat]
    · cases hi

theorem Stretch.clear {t : Tree} {s : List Edit} {c : Path} {i : Nat} {r : Path} {x y : Nat × Nat}
    (hx : Stretch t s c x) (hy : Inside t (c ++ i :: r) y) (hi : Edit.delete (c ++ [i]) ∉ s) :
    disjoint x y = true := by
  obtain ⟨ks, oc, hc, hx⟩ := hx
  obtain ⟨ks', oc', k, hc', hk, y1, y2⟩ := hy.child
  rw [hc] at hc'
  cases hc'
  have hdel : (deletedIn s c).contains i = false := Bool.eq_false_iff.2 fun h => hi (deletedIn_mem h)
  have := (stretches_spec _ ks 0 (oc + 2) (oc + 1) (Nat.le_succ _) x hx).2.2 i k hk (by rwa [Nat.zero_add])
  exact disjoint_iff.2 (this.imp (Nat.le_trans · y1) (Nat.le_trans y2))

/-- `x` is edited on account of the node at `p`: a node that is replaced, or a container that is rewritten -/
def EditedAt (t : Tree) (all : List Edit) (p : Path) (x : Nat × Nat) : Prop :=
  (Edit.replace p ∈ survivors all ∧ Inside t p x) ∨
    (p ∈ touched (survivors all) ∧ Stretch t (survivors all) p x)

section pairs
variable {t : Tree} {all : List Edit} {p q : Path} {x y : Nat × Nat}
  (hrd : ∀ p, Edit.replace p ∈ all → Edit.delete p ∉ all)

theorem EditedAt.inside (h : EditedAt t all p x) : Inside t p x :=
  h.elim (·.2) (·.2.inside)

/-- the `match` is the one `ranges` maps over the changes -/
theorem EditedAt.of_replaced {e : Edit} (he : e ∈ survivors all)
    (h : (match (generalizing := false) e with | .replace p => interval t p | _ => none) = some x) :
    ∃ p, e = .replace p ∧ EditedAt t all p x := by
  cases e with
  | replace p => exact ⟨p, rfl, .inl ⟨he, interval_inside h⟩⟩
  | delete _ => cases h
  | insert _ => cases h

/-- the `match` is the one `ranges` maps over the touched containers -/
theorem EditedAt.of_stretch (hp : p ∈ touched (survivors all))
    (h : x ∈ (match locate t 0 p with
      | some (.node ks, o) => stretches (deletedIn (survivors all) p) ks 0 (o + 2) (o + 1)
      | _ => [])) : EditedAt t all p x := by
  split at h
  · next ks o hl => exact .inr ⟨hp, ks, o, hl, h⟩
  · cases h

include hrd

theorem EditedAt.alone (h : EditedAt t all p x) {r : Edit} {z : Path} (hr : r ∈ all)
    (hq : r.removes = some q) (hqp : p = q ++ z) : r = .replace p :=
  h.elim (fun h => replace_alone hrd h.1 hr hq hqp) (fun h => (touched_alive h.1 hr hq hqp).elim)

/-- a replacement of `p` would have removed what is edited below `p`; the stretches of a container `p` keep
    clear of it, since the child it hangs under is not deleted -/
theorem EditedAt.below {i : Nat} {r : Path} (hx : EditedAt t all p x)
    (hy : EditedAt t all (p ++ i :: r) y) : disjoint x y = true := by
  rcases hx with ⟨hp, _⟩ | ⟨_, hx⟩
  · exact absurd (Edit.replace.inj (hy.alone hrd (survivors_subset hp) rfl rfl)) (by simp)
  · exact hx.clear hy.inside fun hd => nomatch hy.alone hrd (survivors_subset hd) rfl (List.append_cons p i r)

theorem EditedAt.disjoint (hx : EditedAt t all p x) (hy : EditedAt t all q y) (hne : p ≠ q) :
    disjoint x y = true := by
  rcases path_cases p q with ⟨_ | ⟨i, r⟩, rfl⟩ | ⟨_ | ⟨i, r⟩, rfl⟩ | ⟨c, i, j, r, r', hij, rfl, rfl⟩
  · exact absurd (List.append_nil p).symm hne
  · exact hx.below hrd hy
  · exact absurd (List.append_nil q) hne
  · exact disjoint_iff.2 (disjoint_iff.1 (hy.below hrd hx)).symm
  · exact hx.inside.diverge hy.inside hij

end pairs

theorem nodup_eraseDups {α : Type} [BEq α] [LawfulBEq α] (l : List α) : l.eraseDups.Nodup := by
  generalize hn : l.length = n
  induction n using Nat.strongRecOn generalizing l with
  | _ n ih =>
    cases l with
    | nil => exact .nil
    | cons a as =>
      rw [List.eraseDups_cons, List.nodup_cons]
      subst hn
      exact ⟨by simp [List.mem_eraseDups],
        ih _ (Nat.lt_succ_of_le (List.length_filter_le (fun b => !b == a) as)) _ rfl⟩

end ISnap.Nest
