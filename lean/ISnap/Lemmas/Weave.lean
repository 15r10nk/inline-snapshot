/-
  Weaving insertions into a list of kept-or-deleted old elements by position (`generic_sequence_update`
  for the entries of a dict display and for the keyword arguments of a call): in front of old element
  `i` comes `ins i`, behind the last one `tl`.  `Assign.weave` and `CallAssign.weave` are the two
  instances; they differ in what goes behind the last element (the groups at that position / all later ones).
-/
namespace ISnap.Weave
open List

variable {γ δ : Type}

def weaveG (ins tl : Nat → List γ) : List (Option γ) → Nat → List γ
  | [], i => tl i
  | o :: K, i => ins i ++ o.toList ++ weaveG ins tl K (i + 1)

theorem weaveG_congr_tail {ins tl tl' : Nat → List γ} : ∀ (K : List (Option γ)) (i : Nat),
    tl (i + K.length) = tl' (i + K.length) → weaveG ins tl K i = weaveG ins tl' K i
  | [], _, h => h
  | o :: K, i, h => by
    rw [length_cons, ← Nat.add_assoc, Nat.add_right_comm] at h
    unfold weaveG
    rw [weaveG_congr_tail K (i + 1) h]

theorem filterMap_fixed {g : γ → Option γ} : ∀ {l : List γ}, (∀ q ∈ l, g q = some q) → l.filterMap g = l
  | [], _ => rfl
  | q :: l, h => by
    rw [filterMap_cons, h q mem_cons_self, filterMap_fixed fun r hr => h r (mem_cons_of_mem _ hr)]

theorem weaveG_filterMap {ins tl : Nat → List γ} (g : γ → Option γ)
    (h : ∀ i q, q ∈ ins i ∨ q ∈ tl i → g q = some q) :
    ∀ (K : List (Option γ)) (i : Nat),
      (weaveG ins tl K i).filterMap g = weaveG ins tl (K.map (·.bind g)) i
  | [], i => filterMap_fixed fun q hq => h i q (.inr hq)
  | o :: K, i => by
    unfold weaveG
    rw [filterMap_append, filterMap_append, weaveG_filterMap g h K,
      filterMap_fixed fun q hq => h i q (.inl hq)]
    cases o with
    | none => rfl
    | some q => cases hq : g q <;> simp [hq]

theorem weaveG_flatMap {ins tl : Nat → List γ} (h : γ → List δ)
    (h0 : ∀ i q, q ∈ ins i ∨ q ∈ tl i → h q = []) :
    ∀ (K : List (Option γ)) (i : Nat), (weaveG ins tl K i).flatMap h = (K.filterMap id).flatMap h
  | [], i => flatMap_eq_nil_iff.2 fun q hq => h0 i q (.inr hq)
  | o :: K, i => by
    unfold weaveG
    rw [flatMap_append, flatMap_append, weaveG_flatMap h h0 K,
      flatMap_eq_nil_iff.2 fun q hq => h0 i q (.inl hq)]
    cases o <;> simp

theorem weaveG_nil {ins tl : Nat → List γ} (h0 : ∀ i q, q ∈ ins i ∨ q ∈ tl i → False)
    (K : List (Option γ)) (i : Nat) : weaveG ins tl K i = K.filterMap id := by
  have := weaveG_flatMap (fun q => [q]) (fun i q hq => (h0 i q hq).elim) K i
  simpa using this

theorem sublist_flatMap_filterMap {α : Type} (f : α → Option α) (h : α → List δ) : ∀ (l : List α),
    (∀ a ∈ l, ∀ b, f a = some b → (h b).Sublist (h a)) → ((l.filterMap f).flatMap h).Sublist (l.flatMap h)
  | [], _ => Sublist.slnil
  | a :: l, H => by
    have ih := sublist_flatMap_filterMap f h l fun b hb => H b (mem_cons_of_mem _ hb)
    rw [filterMap_cons, flatMap_cons]
    cases hf : f a with
    | none => exact ih.trans (sublist_append_right ..)
    | some b => rw [flatMap_cons]; exact (H a mem_cons_self b hf).append ih

theorem any_group_nonempty {β : Type} : ∀ (L : List (Nat × List β)),
    L.any (fun p => !p.2.isEmpty) = !(L.flatMap (·.2)).isEmpty
  | [] => rfl
  | p :: L => by rw [any_cons, flatMap_cons, any_group_nonempty L]; cases p.2 <;> rfl

variable {β : Type} (g : Nat × β → List γ)

def atPos (L : List (Nat × β)) (i : Nat) : List γ := (L.filter (fun p => p.1 == i)).flatMap g

def fromPos (L : List (Nat × β)) (i : Nat) : List γ := (L.filter (fun p => p.1 ≥ i)).flatMap g

theorem mem_pos {L : List (Nat × β)} {i j : Nat} {q : γ} (h : q ∈ atPos g L i ∨ q ∈ fromPos g L j) :
    q ∈ L.flatMap g := by
  rcases h with h | h <;> obtain ⟨p, hp, hq⟩ := mem_flatMap.1 h <;>
    exact mem_flatMap.2 ⟨p, (mem_filter.1 hp).1, hq⟩

theorem fromPos_eq_all {L : List (Nat × β)} {i : Nat} (h : ∀ p ∈ L, i ≤ p.1) :
    fromPos g L i = L.flatMap g := by
  rw [fromPos, filter_eq_self.2 (fun p hp => by simpa using h p hp)]

theorem fromPos_eq_atPos {L : List (Nat × β)} {i : Nat} (h : ∀ p ∈ L, p.1 ≤ i) :
    fromPos g L i = atPos g L i := by
  rw [fromPos, atPos, filter_congr (q := fun p => p.1 == i) fun p hp => by
    have := h p hp
    rw [Bool.eq_iff_iff, decide_eq_true_eq, beq_iff_eq]; omega]

theorem fromPos_perm (L : List (Nat × β)) (i : Nat) :
    fromPos g L i ~ atPos g L i ++ fromPos g L (i + 1) := by
  have h := (filter_append_perm (fun p => p.1 == i) (L.filter (fun p => p.1 ≥ i))).symm
  have e₁ : L.filter (fun p => p.1 == i && decide (p.1 ≥ i)) = L.filter (fun p => p.1 == i) :=
    filter_congr fun p _ => by rw [Bool.eq_iff_iff]; simp; omega
  have e₂ : L.filter (fun p => !(p.1 == i) && decide (p.1 ≥ i)) = L.filter (fun p => decide (p.1 ≥ i + 1)) :=
    filter_congr fun p _ => by rw [Bool.eq_iff_iff]; simp; omega
  rw [filter_filter, filter_filter, e₁, e₂] at h
  simpa only [fromPos, atPos, flatMap_append] using h.flatMap_right g

theorem weaveG_perm (L : List (Nat × β)) : ∀ (K : List (Option γ)) (i : Nat),
    weaveG (atPos g L) (fromPos g L) K i ~ K.filterMap id ++ fromPos g L i
  | [], i => by simp [weaveG]
  | o :: K, i => by
    unfold weaveG
    have hK : filterMap id (o :: K) = o.toList ++ filterMap id K := by cases o <;> rfl
    rw [hK]
    -- A ++ O ++ (K' ++ T') ~ (O ++ K') ++ (A ++ T')
    refine ((weaveG_perm L K (i + 1)).append_left _).trans (Perm.trans ?_
      ((fromPos_perm g L i).symm.append_left _))
    simp only [append_assoc]
    exact perm_append_comm_assoc ..  |>.trans (Perm.append_left _ (perm_append_comm_assoc ..))

theorem weaveG_map {α : Type} {ins tl : Nat → List γ} (f : α → Option γ) (G : α → List γ) :
    ∀ (l : List α) (i : Nat), (∀ j (h : j < l.length), ins (i + j) = G l[j]) →
      weaveG ins tl (l.map f) i = l.flatMap (fun a => G a ++ (f a).toList) ++ tl (i + l.length)
  | [], i, _ => rfl
  | a :: l, i, h => by
    have ih := weaveG_map (ins := ins) (tl := tl) f G l (i + 1) fun j hj => by
      rw [Nat.add_right_comm]; exact h (j + 1) (Nat.succ_lt_succ hj)
    rw [map_cons]
    unfold weaveG
    rw [ih, flatMap_cons, show ins i = G a from h 0 (Nat.zero_lt_succ _), Nat.add_right_comm, length_cons]
    simp only [append_assoc]
    rfl

end ISnap.Weave
