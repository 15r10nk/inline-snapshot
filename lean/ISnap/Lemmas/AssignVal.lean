import ISnap.Model.Assign
/-
  Values and expressions of the model `ISnap.Assign`, before `assign` itself is looked at:
  the predicates of the property files (`ValOk`, `WfVal`, `Managed`, `WfExpr`; the proofs use the two
  conjunctions `gv`, `ge`), association lists whose keys are compared through their normal form `akey`,
  induction principles in which a list and a tuple are one case (`seqV`), `pyEq` as an equivalence on
  good values, `eval` / `canon`.
-/
namespace ISnap.Assign
open ISnap List

/-- the keys of an association list are pairwise different w.r.t. Python `==` (`Atom.pyEq`) -/
def dkeys : List (Atom × α) → Bool
  | [] => true
  | (k, _) :: rest => !(rest.any (fun p => Atom.pyEq k p.1)) && dkeys rest

/-- no `Unmanaged` wrapper anywhere inside the value -/
def valOk : Val → Bool
  | .atom _ => true
  | .list xs => okL xs
  | .tuple xs => okL xs
  | .dict kvs => okD kvs
  | .unmIs _ _ => false
  | .unmAny _ => false
where
  okL : List Val → Bool
    | [] => true
    | x :: xs => valOk x && okL xs
  okD : List (Atom × Val) → Bool
    | [] => true
    | (_, v) :: rest => valOk v && okD rest

/-- at every level the keys of a dict are pairwise different (always true of Python dicts) -/
def wfVal : Val → Bool
  | .atom _ => true
  | .list xs => wfL xs
  | .tuple xs => wfL xs
  | .dict kvs => dkeys kvs && wfD kvs
  | .unmIs _ v => wfVal v
  | .unmAny _ => true
where
  wfL : List Val → Bool
    | [] => true
    | x :: xs => wfVal x && wfL xs
  wfD : List (Atom × Val) → Bool
    | [] => true
    | (_, v) :: rest => wfVal v && wfD rest

/-- no unmanaged leaf, f-string or star-expression in the tree; leaf values are unmanaged-free -/
def managed : Expr → Bool
  | .leaf _ _ v => valOk v
  | .unm _ _ => false
  | .fstr _ _ => false
  | .seq _ es => mgL es
  | .dict es => mgD es
  | .star _ => false
where
  mgL : List Expr → Bool
    | [] => true
    | e :: es => managed e && mgL es
  mgD : List (Atom × Expr) → Bool
    | [] => true
    | (_, e) :: rest => managed e && mgD rest

/-- the keys of every dict display are pairwise different, leaf values are well-formed -/
def wfExpr : Expr → Bool
  | .leaf _ _ v => wfVal v
  | .unm _ v => wfVal v
  | .fstr _ v => wfVal v
  | .seq _ es => wfEL es
  | .dict es => dkeys es && wfED es
  | .star e => wfExpr e
where
  wfEL : List Expr → Bool
    | [] => true
    | e :: es => wfExpr e && wfEL es
  wfED : List (Atom × Expr) → Bool
    | [] => true
    | (_, e) :: rest => wfExpr e && wfED rest

def ValOk (v : Val) : Prop := valOk v = true
def WfVal (v : Val) : Prop := wfVal v = true
def Managed (e : Expr) : Prop := managed e = true
def WfExpr (e : Expr) : Prop := wfExpr e = true

instance (v : Val) : Decidable (ValOk v) := inferInstanceAs (Decidable (_ = true))
instance (v : Val) : Decidable (WfVal v) := inferInstanceAs (Decidable (_ = true))
instance (e : Expr) : Decidable (Managed e) := inferInstanceAs (Decidable (_ = true))
instance (e : Expr) : Decidable (WfExpr e) := inferInstanceAs (Decidable (_ = true))

/-- `ValOk` and `WfVal` together (`gv_iff`): the form in which the lemmas carry the two hypotheses -/
def gv : Val → Bool
  | .atom _ => true
  | .list xs => gvL xs
  | .tuple xs => gvL xs
  | .dict kvs => dkeys kvs && gvD kvs
  | .unmIs _ _ => false
  | .unmAny _ => false
where
  gvL : List Val → Bool
    | [] => true
    | x :: xs => gv x && gvL xs
  gvD : List (Atom × Val) → Bool
    | [] => true
    | (_, v) :: rest => gv v && gvD rest

/-- `Managed` and `WfExpr` together (`ge_iff`) -/
def ge (e : Expr) : Bool := managed e && wfExpr e

/-- all `unm` / `fstr` nodes of a tree, in source order (also those below a `*`) -/
def unmLeaves : Expr → List Expr
  | .leaf _ _ _ => []
  | .unm t v => [.unm t v]
  | .fstr t v => [.fstr t v]
  | .seq _ es => ulL es
  | .dict es => ulD es
  | .star e => unmLeaves e
where
  ulL : List Expr → List Expr
    | [] => []
    | e :: es => unmLeaves e ++ ulL es
  ulD : List (Atom × Expr) → List Expr
    | [] => []
    | (_, e) :: rest => unmLeaves e ++ ulD rest

/-- `Atom.pyEq` compares atoms after reading `True` / `False` as `1` / `0` -/
def akey (a : Atom) : Atom := match a.num? with | some x => .int x | none => a

theorem atomEq_iff {a b : Atom} : Atom.pyEq a b = true ↔ akey a = akey b := by
  cases a <;> cases b <;> simp [Atom.pyEq, Atom.num?, akey]

theorem atomEq_refl (a : Atom) : Atom.pyEq a a = true := atomEq_iff.2 rfl

theorem atomEq_symm (a b : Atom) : Atom.pyEq a b = Atom.pyEq b a := by
  rw [Bool.eq_iff_iff, atomEq_iff, atomEq_iff]; exact eq_comm

theorem atomEq_trans {a b c : Atom} (h1 : Atom.pyEq a b = true) (h2 : Atom.pyEq b c = true) :
    Atom.pyEq a c = true :=
  atomEq_iff.2 ((atomEq_iff.1 h1).trans (atomEq_iff.1 h2))

theorem atomEq_congr_left {a b : Atom} (h : Atom.pyEq a b = true) (c : Atom) :
    Atom.pyEq a c = Atom.pyEq b c := by
  rw [Bool.eq_iff_iff]
  exact ⟨atomEq_trans (by rw [atomEq_symm]; exact h), atomEq_trans h⟩

theorem atomEq_congr_right {a b : Atom} (h : Atom.pyEq a b = true) (c : Atom) :
    Atom.pyEq c a = Atom.pyEq c b := by
  rw [atomEq_symm c a, atomEq_symm c b]; exact atomEq_congr_left h c

def hasKey (k : Atom) (l : List (Atom × α)) : Bool := l.any (fun p => Atom.pyEq k p.1)

@[simp] theorem hasKey_nil (k : Atom) : hasKey k ([] : List (Atom × α)) = false := rfl
@[simp] theorem hasKey_cons (k : Atom) (p : Atom × α) (l : List (Atom × α)) :
    hasKey k (p :: l) = (Atom.pyEq k p.1 || hasKey k l) := rfl

theorem hasKey_iff {k : Atom} {l : List (Atom × α)} :
    hasKey k l = true ↔ ∃ p ∈ l, Atom.pyEq k p.1 = true := by simp [hasKey]

theorem hasKey_congr {k k' : Atom} (h : Atom.pyEq k k' = true) (l : List (Atom × α)) :
    hasKey k l = hasKey k' l := by
  induction l with
  | nil => rfl
  | cons p l ih => simp [ih, atomEq_congr_left h]

theorem hasKey_map (k : Atom) (l : List (Atom × α)) (f : Atom × α → Atom × β)
    (hf : ∀ p, (f p).1 = p.1) : hasKey k (l.map f) = hasKey k l := by
  induction l with
  | nil => rfl
  | cons p l ih => simp [ih, hf]

theorem any_keys (k : Atom) (es : List (Atom × α)) :
    (es.map (·.1)).any (fun k' => Atom.pyEq k k') = hasKey k es := by
  simp [hasKey, any_map, Function.comp_def]

theorem hasKey_perm {l l' : List (Atom × α)} (h : l ~ l') (k : Atom) : hasKey k l = hasKey k l' :=
  h.any_eq

@[simp] theorem dkeys_nil : dkeys ([] : List (Atom × α)) = true := rfl
@[simp] theorem dkeys_cons (p : Atom × α) (l : List (Atom × α)) :
    dkeys (p :: l) = (!hasKey p.1 l && dkeys l) := rfl

theorem dkeys_iff_pairwise {l : List (Atom × α)} :
    dkeys l = true ↔ l.Pairwise (fun p q => Atom.pyEq p.1 q.1 = false) := by
  induction l with
  | nil => simp
  | cons p l ih =>
    simp only [dkeys_cons, Bool.and_eq_true, Bool.not_eq_eq_eq_not, Bool.not_true, ih, pairwise_cons,
      hasKey, any_eq_false]
    simp

theorem dkeys_perm {l l' : List (Atom × α)} (h : l ~ l') : dkeys l = dkeys l' := by
  rw [Bool.eq_iff_iff, dkeys_iff_pairwise, dkeys_iff_pairwise]
  exact h.pairwise_iff (fun {x y} hxy => by rw [atomEq_symm]; exact hxy)

theorem dkeys_append {l l' : List (Atom × α)} : dkeys (l ++ l') = true ↔
    dkeys l = true ∧ dkeys l' = true ∧ ∀ p ∈ l, hasKey p.1 l' = false := by
  simp only [dkeys_iff_pairwise, pairwise_append, hasKey, any_eq_false]
  simp

theorem dkeys_filterMap {l : List (Atom × α)} {f : Atom × α → Option (Atom × β)}
    (hf : ∀ p q, f p = some q → q.1 = p.1) (h : dkeys l = true) : dkeys (l.filterMap f) = true := by
  rw [dkeys_iff_pairwise] at h ⊢
  refine Pairwise.filterMap f (fun p q hpq p' hp' q' hq' => ?_) h
  rw [hf p p' hp', hf q q' hq']; exact hpq

theorem dkeys_map (l : List (Atom × α)) (f : Atom × α → Atom × β)
    (hf : ∀ p, (f p).1 = p.1) : dkeys (l.map f) = dkeys l := by
  induction l with
  | nil => rfl
  | cons p l ih => simp [ih, hf, hasKey_map _ _ f hf]

theorem dkeys_filter {l : List (Atom × α)} (q : Atom × α → Bool) (h : dkeys l = true) :
    dkeys (l.filter q) = true := by
  rw [dkeys_iff_pairwise] at h ⊢; exact h.filter q

@[simp] theorem lookupA_nil (k : Atom) : lookupA k ([] : List (Atom × α)) = none := rfl
@[simp] theorem lookupA_cons (k : Atom) (p : Atom × α) (l : List (Atom × α)) :
    lookupA k (p :: l) = if Atom.pyEq k p.1 then some p.2 else lookupA k l := rfl

theorem lookupA_isSome {k : Atom} {l : List (Atom × α)} :
    (lookupA k l).isSome = hasKey k l := by
  induction l with
  | nil => simp
  | cons p l ih => by_cases h : Atom.pyEq k p.1 = true <;> simp [h, ih]

theorem lookupA_none_iff {k : Atom} {l : List (Atom × α)} :
    lookupA k l = none ↔ hasKey k l = false := by
  rw [← lookupA_isSome]; cases lookupA k l <;> simp

theorem lookupA_congr {k k' : Atom} (h : Atom.pyEq k k' = true) (l : List (Atom × α)) :
    lookupA k l = lookupA k' l := by
  induction l with
  | nil => rfl
  | cons p l ih => simp [ih, atomEq_congr_left h]

theorem lookupA_mem {k : Atom} {l : List (Atom × α)} {v : α} (h : lookupA k l = some v) :
    ∃ k', (k', v) ∈ l ∧ Atom.pyEq k k' = true := by
  induction l with
  | nil => simp at h
  | cons p l ih =>
    by_cases hk : Atom.pyEq k p.1 = true
    · simp [hk] at h; exact ⟨p.1, by simp [← h], hk⟩
    · simp [hk] at h
      obtain ⟨k', h1, h2⟩ := ih h
      exact ⟨k', by simp [h1], h2⟩

theorem lookupA_of_mem {k k' : Atom} {l : List (Atom × α)} {v : α} (hd : dkeys l = true)
    (hm : (k', v) ∈ l) (hk : Atom.pyEq k k' = true) : lookupA k l = some v := by
  induction l with
  | nil => simp at hm
  | cons p l ih =>
    simp at hd
    rcases List.mem_cons.1 hm with h | h
    · subst h; simp [hk]
    · have : Atom.pyEq k p.1 = false := by
        cases hkp : Atom.pyEq k p.1 with
        | false => rfl
        | true =>
          have : hasKey p.1 l = true := hasKey_iff.2 ⟨(k', v), h, by
            rw [atomEq_symm] at hkp; exact atomEq_trans hkp hk⟩
          simp [this] at hd
      simp [this, ih hd.2 h]

theorem lookupA_self {k : Atom} {l : List (Atom × α)} {v : α} (hd : dkeys l = true)
    (hm : (k, v) ∈ l) : lookupA k l = some v :=
  lookupA_of_mem hd hm (atomEq_refl k)

theorem lookupA_map (k : Atom) (l : List (Atom × α)) (g : α → β) :
    lookupA k (l.map (fun p => (p.1, g p.2))) = (lookupA k l).map g := by
  induction l with
  | nil => rfl
  | cons p l ih => by_cases h : Atom.pyEq k p.1 = true <;> simp [h, ih]

def nkeys (l : List (Atom × α)) : List Atom := l.map (fun p => akey p.1)

theorem hasKey_iff_mem {k : Atom} {l : List (Atom × α)} : hasKey k l = true ↔ akey k ∈ nkeys l := by
  simp only [hasKey_iff, atomEq_iff, nkeys, mem_map]
  exact ⟨fun ⟨p, hp, h⟩ => ⟨p, hp, h.symm⟩, fun ⟨p, hp, h⟩ => ⟨p, hp, h.symm⟩⟩

theorem dkeys_iff_nodup {l : List (Atom × α)} : dkeys l = true ↔ (nkeys l).Nodup := by
  rw [dkeys_iff_pairwise, nkeys, Nodup, pairwise_map]
  refine ⟨fun h => h.imp fun h e => ?_, fun h => h.imp fun h => ?_⟩
  · rw [atomEq_iff.2 e] at h; cases h
  · cases h' : Atom.pyEq _ _
    · rfl
    · exact absurd (atomEq_iff.1 h') h

theorem nkeys_subset {a : List (Atom × α)} {b : List (Atom × β)} (h : ∀ p ∈ a, hasKey p.1 b = true) :
    nkeys a ⊆ nkeys b := by
  intro k hk
  obtain ⟨p, hp, rfl⟩ := mem_map.1 hk
  exact hasKey_iff_mem.1 (h p hp)

theorem length_le_of_keys_into {a : List (Atom × α)} {b : List (Atom × β)} (hd : dkeys a = true)
    (hsub : ∀ p ∈ a, hasKey p.1 b = true) : a.length ≤ b.length := by
  simpa [nkeys] using (dkeys_iff_nodup.1 hd).length_le_of_subset (nkeys_subset hsub)

theorem keys_onto {a : List (Atom × α)} {b : List (Atom × β)} (hd : dkeys a = true)
    (hsub : ∀ p ∈ a, hasKey p.1 b = true) (hlen : b.length ≤ a.length) :
    ∀ q ∈ b, hasKey q.1 a = true := by
  intro q hq
  rw [hasKey_iff_mem]
  apply Classical.byContradiction
  intro hno
  -- otherwise the keys of `a` fit into those of `b` without the key of `q`
  have := (dkeys_iff_nodup.1 hd).length_le_of_subset (l₂ := (nkeys b).erase (akey q.1)) fun k hk =>
    (mem_erase_of_ne fun h => hno (by rw [← h]; exact hk)).2 (nkeys_subset hsub hk)
  have hm : akey q.1 ∈ nkeys b := mem_map.2 ⟨q, hq, rfl⟩
  rw [length_erase_of_mem hm, nkeys, nkeys, length_map, length_map] at this
  have := length_pos_of_mem hq
  omega

def seqV (tup : Bool) (xs : List Val) : Val := if tup then .tuple xs else .list xs

/- `Val` and `Expr` are nested inductives: their recursors take, after one premise per constructor, the premises of
   the auxiliary motives in the order list-nil, list-cons, pairs-nil, pairs-cons, pair. -/

theorem Val.ind {P : Val → Prop} (atom : ∀ a, P (.atom a))
    (seq : ∀ tup xs, (∀ x ∈ xs, P x) → P (seqV tup xs))
    (dict : ∀ kvs, (∀ p ∈ kvs, P p.2) → P (.dict kvs))
    (unmIs : ∀ i v, P v → P (.unmIs i v)) (unmAny : ∀ i, P (.unmAny i)) : ∀ v, P v :=
  Val.rec (motive_1 := P) (motive_2 := fun xs => ∀ x ∈ xs, P x)
    (motive_3 := fun kvs => ∀ p ∈ kvs, P p.2) (motive_4 := fun p => P p.2)
    atom (seq false) (seq true) dict unmIs unmAny (fun _ h => nomatch h)
    (fun _ _ hh ht => forall_mem_cons.2 ⟨hh, ht⟩) (fun _ h => nomatch h)
    (fun _ _ hh ht => forall_mem_cons.2 ⟨hh, ht⟩) (fun _ _ h => h)

theorem Expr.ind {P : Expr → Prop} (leaf : ∀ t c v, P (.leaf t c v)) (unm : ∀ t v, P (.unm t v))
    (fstr : ∀ t v, P (.fstr t v))
    (seq : ∀ tup es, (∀ e ∈ es, P e) → P (.seq tup es))
    (dict : ∀ es, (∀ p ∈ es, P p.2) → P (.dict es))
    (star : ∀ e, P e → P (.star e)) : ∀ e, P e :=
  Expr.rec (motive_1 := P) (motive_2 := fun xs => ∀ x ∈ xs, P x)
    (motive_3 := fun kvs => ∀ p ∈ kvs, P p.2) (motive_4 := fun p => P p.2)
    leaf unm fstr seq dict star (fun _ h => nomatch h)
    (fun _ _ hh ht => forall_mem_cons.2 ⟨hh, ht⟩) (fun _ h => nomatch h)
    (fun _ _ hh ht => forall_mem_cons.2 ⟨hh, ht⟩) (fun _ _ h => h)

def listOf : Val → List Val
  | .list xs => xs
  | .tuple xs => xs
  | _ => []

def dictOf : Val → List (Atom × Val)
  | .dict kvs => kvs
  | _ => []

@[simp] theorem listOf_seqV (t xs) : listOf (seqV t xs) = xs := by cases t <;> rfl
@[simp] theorem ty_seqV (t xs) : (seqV t xs).ty = if t then Ty.tuple else Ty.list := by cases t <;> rfl

theorem eq_seqV_of_ty {t : Bool} {n : Val} (h : n.ty = if t then Ty.tuple else Ty.list) :
    n = seqV t (listOf n) := by
  cases t <;> cases n <;> first | rfl | cases h | (rename_i a; cases a <;> cases h)

theorem eq_dict_of_ty {n : Val} (h : n.ty = Ty.dict) : n = .dict (dictOf n) := by
  cases n <;> first | rfl | cases h | (rename_i a; cases a <;> cases h)

/- the auxiliary functions of the recursive definitions over values and expressions are `List.all`,
   `List.map`, `List.flatMap` -/

theorem eq_all {α : Type} {p : α → Bool} {pl : List α → Bool} (nil : pl [] = true)
    (cons : ∀ x xs, pl (x :: xs) = (p x && pl xs)) : ∀ xs, pl xs = xs.all p
  | [] => nil
  | x :: xs => by rw [cons, eq_all nil cons xs, all_cons]

theorem eq_map {α β : Type} {f : α → β} {fl : List α → List β} (nil : fl [] = [])
    (cons : ∀ x xs, fl (x :: xs) = f x :: fl xs) : ∀ xs, fl xs = xs.map f
  | [] => nil
  | x :: xs => by rw [cons, eq_map nil cons xs, map_cons]

theorem eq_flatMap {α β : Type} {f : α → List β} {fl : List α → List β} (nil : fl [] = [])
    (cons : ∀ x xs, fl (x :: xs) = f x ++ fl xs) : ∀ xs, fl xs = xs.flatMap f
  | [] => nil
  | x :: xs => by rw [cons, eq_flatMap nil cons xs, flatMap_cons]

theorem okL_eq (xs) : valOk.okL xs = xs.all valOk := eq_all rfl (fun _ _ => rfl) xs
theorem okD_eq (kvs) : valOk.okD kvs = kvs.all (fun p => valOk p.2) := eq_all rfl (fun _ _ => rfl) kvs
theorem wfL_eq (xs) : wfVal.wfL xs = xs.all wfVal := eq_all rfl (fun _ _ => rfl) xs
theorem wfD_eq (kvs) : wfVal.wfD kvs = kvs.all (fun p => wfVal p.2) := eq_all rfl (fun _ _ => rfl) kvs
theorem gvL_eq (xs) : gv.gvL xs = xs.all gv := eq_all rfl (fun _ _ => rfl) xs
theorem gvD_eq (kvs) : gv.gvD kvs = kvs.all (fun p => gv p.2) := eq_all rfl (fun _ _ => rfl) kvs
theorem mgL_eq (es) : managed.mgL es = es.all managed := eq_all rfl (fun _ _ => rfl) es
theorem mgD_eq (es) : managed.mgD es = es.all (fun p => managed p.2) := eq_all rfl (fun _ _ => rfl) es
theorem wfEL_eq (es) : wfExpr.wfEL es = es.all wfExpr := eq_all rfl (fun _ _ => rfl) es
theorem wfED_eq (es) : wfExpr.wfED es = es.all (fun p => wfExpr p.2) := eq_all rfl (fun _ _ => rfl) es

theorem valOk_seqV {t xs} : valOk (seqV t xs) = true ↔ ∀ x ∈ xs, valOk x = true := by
  cases t <;> simp [seqV, valOk, okL_eq]

theorem valOk_dict {kvs} : valOk (.dict kvs) = true ↔ ∀ p ∈ kvs, valOk p.2 = true := by
  simp [valOk, okD_eq]

@[simp] theorem gv_atom (a : Atom) : gv (.atom a) = true := rfl
@[simp] theorem gv_unmIs (i : Nat) (v : Val) : gv (.unmIs i v) = false := rfl
@[simp] theorem gv_unmAny (i : Nat) : gv (.unmAny i) = false := rfl

theorem gv_seqV {t xs} : gv (seqV t xs) = true ↔ ∀ x ∈ xs, gv x = true := by
  cases t <;> simp [seqV, gv, gvL_eq]

theorem gv_dict {kvs} : gv (.dict kvs) = true ↔ dkeys kvs = true ∧ ∀ p ∈ kvs, gv p.2 = true := by
  simp [gv, gvD_eq]

theorem gv_ind {P : Val → Prop} (atom : ∀ a, P (.atom a))
    (seq : ∀ t xs, (∀ x ∈ xs, gv x = true) → (∀ x ∈ xs, P x) → P (seqV t xs))
    (dict : ∀ kvs, dkeys kvs = true → (∀ p ∈ kvs, gv p.2 = true) → (∀ p ∈ kvs, P p.2) → P (.dict kvs)) :
    ∀ v, gv v = true → P v := by
  intro v
  induction v using Val.ind with
  | atom a => exact fun _ => atom a
  | seq t xs ih => exact fun h => seq t xs (gv_seqV.1 h) fun x hx => ih x hx (gv_seqV.1 h x hx)
  | dict kvs ih =>
    exact fun h => dict kvs (gv_dict.1 h).1 (gv_dict.1 h).2 fun p hp => ih p hp ((gv_dict.1 h).2 p hp)
  | unmIs i v _ => exact fun h => by simp at h
  | unmAny i => exact fun h => by simp at h

theorem all_and {α : Type} {l : List α} {f g h : α → Bool} (e : ∀ x ∈ l, f x = (g x && h x)) :
    l.all f = (l.all g && l.all h) := by
  induction l with
  | nil => rfl
  | cons a l ih =>
    simp only [all_cons, e a mem_cons_self, ih fun x hx => e x (mem_cons_of_mem _ hx)]
    simp only [Bool.and_assoc, Bool.and_left_comm]

theorem gv_eq (v : Val) : gv v = (valOk v && wfVal v) := by
  induction v using Val.ind with
  | atom a => rfl
  | seq t xs ih =>
    cases t <;> simp only [seqV, gv, valOk, wfVal, gvL_eq, okL_eq, wfL_eq, all_and ih, Bool.false_eq_true,
      ↓reduceIte]
  | dict kvs ih => simp only [gv, valOk, wfVal, gvD_eq, okD_eq, wfD_eq, all_and ih, Bool.and_left_comm]
  | unmIs i v _ => rfl
  | unmAny i => rfl

theorem gv_iff {v : Val} : gv v = true ↔ ValOk v ∧ WfVal v := by rw [gv_eq]; exact Bool.and_eq_true_iff

theorem gv_of {v : Val} (h1 : ValOk v) (h2 : WfVal v) : gv v = true := gv_iff.2 ⟨h1, h2⟩

@[simp] theorem ge_leaf (t : Nat) (c : Bool) (v : Val) : ge (.leaf t c v) = gv v := (gv_eq v).symm
@[simp] theorem ge_unm (t : Nat) (v : Val) : ge (.unm t v) = false := rfl
@[simp] theorem ge_fstr (t : Nat) (v : Val) : ge (.fstr t v) = false := rfl
@[simp] theorem ge_star (e : Expr) : ge (.star e) = false := rfl

theorem ge_seq {t es} : ge (.seq t es) = true ↔ ∀ e ∈ es, ge e = true := by
  simp [ge, managed, wfExpr, mgL_eq, wfEL_eq, forall_and]

theorem ge_dict {es} : ge (.dict es) = true ↔ dkeys es = true ∧ ∀ p ∈ es, ge p.2 = true := by
  simp only [ge, managed, wfExpr, mgD_eq, wfED_eq, Bool.and_eq_true, all_eq_true, forall_and]
  exact ⟨fun ⟨a, b, c⟩ => ⟨b, a, c⟩, fun ⟨b, a, c⟩ => ⟨a, b, c⟩⟩

theorem ge_iff {e : Expr} : ge e = true ↔ Managed e ∧ WfExpr e := Bool.and_eq_true_iff

theorem ge_of {e : Expr} (h1 : Managed e) (h2 : WfExpr e) : ge e = true := ge_iff.2 ⟨h1, h2⟩

theorem gv_listOf {n : Val} (h : gv n = true) : ∀ x ∈ listOf n, gv x = true := by
  cases n <;> simp_all [listOf, gv, gvL_eq]

@[simp] theorem pyEq_atom_atom (a b : Atom) : pyEq (.atom a) (.atom b) = Atom.pyEq a b := rfl
@[simp] theorem pyEq_list_list (xs ys : List Val) : pyEq (.list xs) (.list ys) = pyEq.eqL xs ys := rfl
@[simp] theorem pyEq_tuple_tuple (xs ys : List Val) :
    pyEq (.tuple xs) (.tuple ys) = pyEq.eqL xs ys := rfl
@[simp] theorem pyEq_dict_dict (xs ys : List (Atom × Val)) :
    pyEq (.dict xs) (.dict ys) = (xs.length == ys.length && pyEq.eqD xs ys) := rfl
@[simp] theorem pyEq_seqV_seqV (t : Bool) (xs ys : List Val) :
    pyEq (seqV t xs) (seqV t ys) = pyEq.eqL xs ys := by cases t <;> rfl

@[simp] theorem eqL_nil_nil : pyEq.eqL [] [] = true := rfl
@[simp] theorem eqL_cons_cons (x y : Val) (xs ys : List Val) :
    pyEq.eqL (x :: xs) (y :: ys) = (pyEq x y && pyEq.eqL xs ys) := rfl
@[simp] theorem eqL_nil_cons (y : Val) (ys : List Val) : pyEq.eqL [] (y :: ys) = false := rfl
@[simp] theorem eqL_cons_nil (y : Val) (ys : List Val) : pyEq.eqL (y :: ys) [] = false := rfl

theorem eqL_iff {xs ys : List Val} : pyEq.eqL xs ys = true ↔
    xs.length = ys.length ∧ ∀ i (h1 : i < xs.length) (h2 : i < ys.length), pyEq xs[i] ys[i] = true := by
  induction xs generalizing ys with
  | nil => cases ys <;> simp
  | cons x xs ih =>
    cases ys with
    | nil => simp
    | cons y ys =>
      simp only [eqL_cons_cons, Bool.and_eq_true, ih, List.length_cons, Nat.add_right_cancel_iff]
      constructor
      · rintro ⟨h1, h2, h3⟩
        refine ⟨h2, fun i hi1 hi2 => ?_⟩
        cases i with
        | zero => exact h1
        | succ i => exact h3 i (Nat.lt_of_succ_lt_succ hi1) (Nat.lt_of_succ_lt_succ hi2)
      · rintro ⟨h1, h2⟩
        exact ⟨h2 0 (Nat.zero_lt_succ _) (Nat.zero_lt_succ _), h1, fun i hi1 hi2 =>
          h2 (i+1) (Nat.succ_lt_succ hi1) (Nat.succ_lt_succ hi2)⟩

theorem eqL_length {xs ys : List Val} (h : pyEq.eqL xs ys = true) : xs.length = ys.length :=
  (eqL_iff.1 h).1

@[simp] theorem eqD_nil (b : List (Atom × Val)) : pyEq.eqD [] b = true := rfl
@[simp] theorem eqD_cons (p : Atom × Val) (a b : List (Atom × Val)) :
    pyEq.eqD (p :: a) b = ((match lookupA p.1 b with | some w => pyEq p.2 w | none => false)
      && pyEq.eqD a b) := rfl

theorem eqD_iff {a b : List (Atom × Val)} : pyEq.eqD a b = true ↔
    ∀ p ∈ a, ∃ w, lookupA p.1 b = some w ∧ pyEq p.2 w = true := by
  induction a with
  | nil => simp
  | cons p a ih =>
    simp only [eqD_cons, Bool.and_eq_true, ih, List.mem_cons, forall_eq_or_imp]
    refine and_congr_left fun _ => ?_
    cases lookupA p.1 b <;> simp

theorem pyEq_seqV_left {t : Bool} {xs : List Val} {n : Val} (h : pyEq (seqV t xs) n = true) :
    ∃ ys, n = seqV t ys ∧ pyEq.eqL xs ys = true := by
  cases t <;> cases n <;> first | cases h | exact ⟨_, rfl, h⟩

theorem pyEq_dict_left {xs : List (Atom × Val)} {n : Val} (h : pyEq (.dict xs) n = true) :
    ∃ ys, n = .dict ys ∧ xs.length = ys.length ∧ pyEq.eqD xs ys = true := by
  cases n <;> first | cases h | exact ⟨_, rfl, by simpa using h⟩

/-- dicts with pairwise different keys are equal iff they have the same keys and equal values under them;
    that the lengths agree is what says that the second has no further key -/
theorem pyEq_dict_iff {a b : List (Atom × Val)} (ha : dkeys a = true) (hb : dkeys b = true) :
    pyEq (.dict a) (.dict b) = true ↔
      (∀ q ∈ b, hasKey q.1 a = true) ∧ ∀ p ∈ a, ∃ w, lookupA p.1 b = some w ∧ pyEq p.2 w = true := by
  rw [pyEq_dict_dict, Bool.and_eq_true, beq_iff_eq, eqD_iff]
  have hsub : (∀ p ∈ a, ∃ w, lookupA p.1 b = some w ∧ pyEq p.2 w = true) →
      ∀ p ∈ a, hasKey p.1 b = true := by
    intro h p hp
    obtain ⟨w, hw, _⟩ := h p hp
    rw [← lookupA_isSome, hw]; rfl
  exact ⟨fun ⟨hlen, h⟩ => ⟨keys_onto ha (hsub h) (Nat.le_of_eq hlen.symm), h⟩, fun ⟨hk, h⟩ =>
    ⟨Nat.le_antisymm (length_le_of_keys_into ha (hsub h)) (length_le_of_keys_into hb hk), h⟩⟩

theorem pyEq_ty {a b : Val} (ha : gv a = true) (h : pyEq a b = true) : a.ty = b.ty ∨
    (∃ x y, a = .atom x ∧ b = .atom y) := by
  cases a <;> cases b <;> simp_all [pyEq, Val.ty]

theorem pyEq_refl : ∀ v, gv v = true → pyEq v v = true := by
  apply gv_ind
  case atom => intro a; simp [atomEq_refl]
  case seq =>
    intro t xs _ ih
    simp only [pyEq_seqV_seqV, eqL_iff, true_and]
    exact fun i h1 _ => ih _ (getElem_mem h1)
  case dict =>
    intro kvs hd _ ih
    simp only [pyEq_dict_dict, beq_self_eq_true, Bool.true_and, eqD_iff]
    exact fun p hp => ⟨p.2, lookupA_self hd hp, ih p hp⟩

/-- `pyEq` is Euclidean on good values: two values equal to a third are equal.  With `pyEq_refl` this makes it
    an equivalence (`pyEq_symm`, `pyEq_congr_left`). -/
theorem pyEq_eucl : ∀ a, gv a = true → ∀ b c, gv b = true → pyEq a b = true → pyEq a c = true →
    pyEq b c = true := by
  apply gv_ind
  case atom =>
    intro a b c _ h1 h2
    cases b <;> simp [pyEq] at h1
    cases c <;> simp [pyEq] at h2
    simpa using atomEq_trans (by rw [atomEq_symm]; exact h1) h2
  case seq =>
    intro t xs _ ih b c hb h1 h2
    obtain ⟨ys, rfl, e1⟩ := pyEq_seqV_left h1
    obtain ⟨zs, rfl, e2⟩ := pyEq_seqV_left h2
    rw [gv_seqV] at hb
    rw [eqL_iff] at e1 e2
    simp only [pyEq_seqV_seqV, eqL_iff]
    refine ⟨e1.1.symm.trans e2.1, fun i i2 i3 => ?_⟩
    have i1 : i < xs.length := e1.1 ▸ i2
    exact ih _ (getElem_mem i1) _ _ (hb _ (getElem_mem i2)) (e1.2 i i1 i2) (e2.2 i i1 i3)
  case dict =>
    intro kvs hd _ ih b c hb h1 h2
    obtain ⟨kws, rfl, hl1, _⟩ := pyEq_dict_left h1
    obtain ⟨kus, rfl, hl2, e2⟩ := pyEq_dict_left h2
    rw [gv_dict] at hb
    rw [pyEq_dict_iff hd hb.1] at h1
    rw [eqD_iff] at e2
    simp only [pyEq_dict_dict, Bool.and_eq_true, beq_iff_eq, eqD_iff]
    refine ⟨hl1.symm.trans hl2, fun q hq => ?_⟩
    -- the entry of `kvs` with the key of `q` was compared with `q` and with an entry of `kus`
    obtain ⟨p, hp, hk⟩ := hasKey_iff.1 (h1.1 q hq)
    obtain ⟨w, hw, hvw⟩ := h1.2 p hp
    rw [lookupA_of_mem hb.1 hq (by rw [atomEq_symm]; exact hk)] at hw
    cases hw
    obtain ⟨u, hu, hpu⟩ := e2 p hp
    exact ⟨u, by rw [lookupA_congr hk]; exact hu, ih p hp _ _ (hb.2 q hq) hvw hpu⟩

theorem pyEq_symm (a : Val) (ha : gv a = true) (b : Val) (hb : gv b = true) (h : pyEq a b = true) :
    pyEq b a = true :=
  pyEq_eucl a ha b a hb h (pyEq_refl a ha)

theorem pyEq_congr_left {a b : Val} (ha : gv a = true) (hb : gv b = true)
    (h : pyEq a b = true) (c : Val) : pyEq a c = pyEq b c := by
  rw [Bool.eq_iff_iff]
  exact ⟨pyEq_eucl a ha b c hb h, pyEq_eucl b hb a c ha (pyEq_symm a ha b hb h)⟩

@[simp] theorem eval_leaf (t c v) : eval (.leaf t c v) = v := rfl
@[simp] theorem eval_unm (t v) : eval (.unm t v) = v := rfl
@[simp] theorem eval_fstr (t v) : eval (.fstr t v) = v := rfl
@[simp] theorem eval_star (e) : eval (.star e) = eval e := rfl
theorem eval_seq (t es) : eval (.seq t es) = seqV t (eval.evalL es) := rfl
@[simp] theorem eval_dict (es) : eval (.dict es) = .dict (eval.evalD es) := rfl

theorem isStar_of_ge {e : Expr} (h : ge e = true) : isStar e = false := by
  cases e <;> simp_all [isStar]

theorem evalL_eq_map {es : List Expr} (h : ∀ e ∈ es, isStar e = false) :
    eval.evalL es = es.map eval := by
  induction es with
  | nil => simp [eval.evalL]
  | cons e es ih =>
    have he : isStar e = false := h e (by simp)
    have ih' := ih (fun q hq => h q (by simp [hq]))
    cases e <;> first | (simp [isStar] at he; done) | simp [eval.evalL, ih']

theorem evalD_eq_map {es : List (Atom × Expr)} (h : ∀ p ∈ es, isStar p.2 = false) :
    eval.evalD es = es.map (fun p => (p.1, eval p.2)) := by
  induction es with
  | nil => simp [eval.evalD]
  | cons p es ih =>
    obtain ⟨k, e⟩ := p
    have he : isStar e = false := h (k, e) (by simp)
    have ih' := ih (fun q hq => h q (by simp [hq]))
    cases e <;> first | (simp [isStar] at he; done) | simp [eval.evalD, ih']

theorem evalL_ge {es : List Expr} (h : ∀ e ∈ es, ge e = true) : eval.evalL es = es.map eval :=
  evalL_eq_map (fun e he => isStar_of_ge (h e he))

theorem evalD_ge {es : List (Atom × Expr)} (h : ∀ p ∈ es, ge p.2 = true) :
    eval.evalD es = es.map (fun p => (p.1, eval p.2)) :=
  evalD_eq_map (fun e he => isStar_of_ge (h e he))

theorem pyEq_eval_dict {es : List (Atom × Expr)} {news : List (Atom × Val)} (hde : dkeys es = true)
    (hes : ∀ p ∈ es, ge p.2 = true) (hdn : dkeys news = true) :
    pyEq (eval (.dict es)) (.dict news) = true ↔ (∀ kv ∈ news, hasKey kv.1 es = true) ∧
      ∀ p ∈ es, ∃ w, lookupA p.1 news = some w ∧ pyEq (eval p.2) w = true := by
  rw [eval_dict, evalD_ge hes, pyEq_dict_iff ((dkeys_map es (fun p => (p.1, eval p.2)) fun _ => rfl).trans hde) hdn]
  simp only [hasKey_map _ es (fun p => (p.1, eval p.2)) fun _ => rfl, mem_map, forall_exists_index, and_imp,
    forall_apply_eq_imp_iff₂]

theorem canonL_eq_map (xs : List Val) : canon.canonL xs = xs.map canon := eq_map rfl (fun _ _ => rfl) xs

theorem canonD_eq_map (kvs : List (Atom × Val)) : canon.canonD kvs = kvs.map (fun p => (p.1, canon p.2)) :=
  eq_map rfl (fun _ _ => rfl) kvs

@[simp] theorem canon_atom (a) : canon (.atom a) = .leaf 0 true (.atom a) := rfl
@[simp] theorem canon_seqV (t xs) : canon (seqV t xs) = .seq t (xs.map canon) := by
  cases t <;> exact congrArg _ (canonL_eq_map xs)
@[simp] theorem canon_dict (kvs) : canon (.dict kvs) = .dict (kvs.map (fun p => (p.1, canon p.2))) := by
  exact congrArg _ (canonD_eq_map kvs)

theorem isStar_canon (v : Val) : isStar (canon v) = false := by
  cases v <;> rfl

/-- `code_repr` round-trips: the written expression evaluates to the value (any value) -/
theorem eval_canon_any (v : Val) : eval (canon v) = v := by
  induction v using Val.ind with
  | atom a => simp
  | seq t xs ih =>
    rw [canon_seqV, eval_seq, evalL_eq_map (by simp [isStar_canon]), map_map]
    exact congrArg _ ((map_congr_left ih).trans (map_id xs))
  | dict kvs ih =>
    rw [canon_dict, eval_dict, evalD_eq_map (fun p hp => by
      obtain ⟨q, _, rfl⟩ := mem_map.1 hp; exact isStar_canon _), map_map]
    exact congrArg _ ((map_congr_left fun p hp => by simp [ih p hp]).trans (map_id kvs))
  | unmIs i v _ => simp [canon]
  | unmAny i => simp [canon]

theorem gv_eval : ∀ e, ge e = true → gv (eval e) = true := by
  intro e
  induction e using Expr.ind with
  | leaf t c v => simp
  | unm t v => simp
  | fstr t v => simp
  | star e _ => simp
  | seq tup es ih =>
    intro h; simp only [ge_seq] at h
    rw [eval_seq, evalL_ge h, gv_seqV]
    simp only [mem_map]
    rintro x ⟨e, he, rfl⟩; exact ih e he (h e he)
  | dict es ih =>
    intro h; simp only [ge_dict] at h
    rw [eval_dict, evalD_ge h.2]
    simp only [gv_dict, mem_map]
    refine ⟨by rw [dkeys_map es (fun p => (p.1, eval p.2)) (fun _ => rfl)]; exact h.1, ?_⟩
    rintro x ⟨e, he, rfl⟩; exact ih e he (h.2 e he)

theorem ge_canon : ∀ v, gv v = true → ge (canon v) = true := by
  apply gv_ind
  case atom => intro a; simp
  case seq =>
    intro t xs _ ih
    simp only [canon_seqV, ge_seq, mem_map]
    rintro e ⟨x, hx, rfl⟩; exact ih x hx
  case dict =>
    intro kvs hd _ ih
    simp only [canon_dict, ge_dict, mem_map]
    refine ⟨(dkeys_map kvs (fun p => (p.1, canon p.2)) (fun _ => rfl)).trans hd, ?_⟩
    rintro e ⟨x, hx, rfl⟩; exact ih x hx

theorem sameL_refl {xs : List Val} (h : ∀ x ∈ xs, same x x = true) : same.sameL xs xs = true := by
  induction xs with
  | nil => simp [same.sameL]
  | cons x xs ih => simp [same.sameL, h x (by simp), ih (fun y hy => h y (by simp [hy]))]

theorem sameD_refl {kvs : List (Atom × Val)} (h : ∀ p ∈ kvs, same p.2 p.2 = true) :
    same.sameD kvs kvs = true := by
  induction kvs with
  | nil => simp [same.sameD]
  | cons p xs ih =>
    obtain ⟨k, x⟩ := p
    simp only [same.sameD, Bool.and_eq_true, beq_self_eq_true, true_and]
    exact ⟨h (k, x) (by simp), ih fun y hy => h y (by simp [hy])⟩

theorem same_refl : ∀ v, gv v = true → same v v = true := by
  apply gv_ind
  case atom => intro a; simp [same]
  case seq => intro t xs _ ih; cases t <;> exact (by simp only [seqV]; exact sameL_refl ih)
  case dict => intro kvs _ _ ih; simp only [same]; exact sameD_refl ih

@[simp] theorem ul_leaf (t c v) : unmLeaves (.leaf t c v) = [] := rfl
@[simp] theorem ul_unm (t v) : unmLeaves (.unm t v) = [.unm t v] := rfl
@[simp] theorem ul_fstr (t v) : unmLeaves (.fstr t v) = [.fstr t v] := rfl
@[simp] theorem ul_star (e) : unmLeaves (.star e) = unmLeaves e := rfl
theorem ulL_eq_flatMap (es : List Expr) : unmLeaves.ulL es = es.flatMap unmLeaves :=
  eq_flatMap rfl (fun _ _ => rfl) es

theorem ulD_eq_flatMap (es : List (Atom × Expr)) : unmLeaves.ulD es = es.flatMap (fun p => unmLeaves p.2) :=
  eq_flatMap rfl (fun _ _ => rfl) es

@[simp] theorem ul_seq (t es) : unmLeaves (.seq t es) = es.flatMap unmLeaves := by
  simp [unmLeaves, ulL_eq_flatMap]
@[simp] theorem ul_dict (es) : unmLeaves (.dict es) = es.flatMap (fun p => unmLeaves p.2) := by
  simp [unmLeaves, ulD_eq_flatMap]

theorem ul_canon : ∀ v, valOk v = true → unmLeaves (canon v) = [] := by
  intro v
  induction v using Val.ind with
  | atom a => simp
  | seq t xs ih =>
    intro h; rw [valOk_seqV] at h
    rw [canon_seqV, ul_seq, flatMap_eq_nil_iff]
    simp only [mem_map]
    rintro e ⟨x, hx, rfl⟩; exact ih x hx (h x hx)
  | dict kvs ih =>
    intro h; rw [valOk_dict] at h
    rw [canon_dict, ul_dict, flatMap_eq_nil_iff]
    simp only [mem_map]
    rintro q ⟨p, hp, rfl⟩; exact ih p hp (h p hp)
  | unmIs i v _ => simp [valOk]
  | unmAny i => simp [valOk]

end ISnap.Assign
