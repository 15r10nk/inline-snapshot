import ISnap.Model.Table
/-
  `Leaf.step` in closed form.  A step has one of four outcomes, decided by the kind of the site, by whether the
  argument is there and, if it is, by what the same comparison does on it (`plainOp`): `step_typeError`,
  `step_misfit`, `step_missing`, `step_present`.  Everything else about a single step is read off these four
  equations.
-/
namespace ISnap
variable {V : Type}

/-- the value `==` keeps: the one recorded first; `ValueAdapter.assign` keeps the old value where it is
    equal and written the same -/
def eqNext (o : Ops V) (old : Option (OldArg V)) (n : Option V) (x : V) : V :=
  match n, old with
  | some n, _ => n
  | none, some (.leaf v _) => if o.eqv v x && o.same v x then v else x
  | none, _ => x

/-- the running extreme kept by Min/Max -/
def mmNext (o : Ops V) (k : Kind) (n : Option V) (x : V) : V :=
  match n with
  | none => x
  | some m => if cmpK o k m x then m else x

def collNext (o : Ops V) (l : Option (List V)) (x : V) : List V :=
  match l with
  | none => [x]
  | some l => if memBy o.eqv x l then l else l ++ [x]

namespace Leaf
variable (o : Ops V) (f : Flags) (s : Leaf V) (op : Op) (x : V) (c : Bool)

def after : Leaf V :=
  match op with
  | .eq => { s with kind := .eq, new := some (eqNext o s.old s.new x) }
  | .ge | .le => { s with kind := op.kind, new := some (mmNext o op.kind s.new x) }
  | .isin => { s with kind := .coll, newC := some (collNext o s.newC x) }

/-- the operation has to store `x`, so `x` must be copied -/
def grows : Bool :=
  match op with
  | .eq => s.new.isNone
  | .ge | .le => s.new.all (!cmpK o op.kind · x)
  | .isin => s.newC.all (!memBy o.eqv x ·)

/-- the comparison against the value now recorded, which `_return` hands out once the old one is to go -/
def onNew : Bool :=
  match op with
  | .eq => o.eqv (eqNext o s.old s.new x) x
  | .ge | .le => cmpK o op.kind (mmNext o op.kind s.new x) x
  | .isin => true

variable {o f s op x c}

theorem step_typeError (h : ¬(s.kind = .undecided ∨ s.kind = op.kind)) :
    s.step o f op x c = { st := s, res := .typeError } := by
  unfold Leaf.step
  rw [if_pos (by simpa [not_or] using h)]

theorem step_misfit {a : OldArg V} (hk : s.kind = .undecided ∨ s.kind = op.kind) (hold : s.old = some a)
    (hp : plainOp o a op x = .unsupported) : s.step o f op x c = { st := s, res := .unsupported } := by
  unfold Leaf.step
  rw [if_neg fun h => hk.elim h.1 h.2, hold]
  cases a <;> cases op <;> first | rfl | cases hp

theorem ret_missing (f : Flags) (r rn : Bool) : ret f true r rn = (if r then 0 else 1, rn) := by
  simp [ret]

theorem ret_present (f : Flags) (r rn : Bool) :
    ret f false r rn = (if r then 0 else 1, if f.cfu then rn else r) := by
  simp [ret]

/- `after`, `grows` and `onNew` follow the branches of `Leaf.step` closely enough that, once the operation and
   `s.new` / `s.newC` are known, both sides of the next two equations agree by `rfl`; `simp` over the unfolded
   step is much slower to check. -/
theorem step_missing (hk : s.kind = .undecided ∨ s.kind = op.kind) (hold : s.old = none) :
    s.step o f op x c =
      if s.grows o op x && !c then { st := { s with kind := op.kind }, dm := 1, res := .usageError }
      else { st := s.after o op x, dm := 1, di := if op = .eq then 1 else 0,
             res := .val (if op = .eq then o.eqv (s.new.getD x) x else true) } := by
  unfold Leaf.step
  rw [if_neg fun h => hk.elim h.1 h.2]
  obtain ⟨old, kind, new, newC⟩ := s
  cases hold
  cases op <;> dsimp only
  · cases new <;> simp only [ret_missing] <;> rfl
  · cases new <;> rfl
  · cases new <;> rfl
  · cases newC <;> rfl

theorem step_present {a : OldArg V} {r : Bool} (hk : s.kind = .undecided ∨ s.kind = op.kind)
    (hold : s.old = some a) (hp : plainOp o a op x = .val r) :
    s.step o f op x c =
      if s.grows o op x && !c then { st := { s with kind := op.kind }, res := .usageError }
      else { st := s.after o op x, di := if r then 0 else 1,
             res := .val (if f.cfu then s.onNew o op x else r) } := by
  obtain ⟨old, kind, new, newC⟩ := s
  cases hold
  have hk' : ¬(kind ≠ .undecided ∧ kind ≠ op.kind) := fun h => hk.elim h.1 h.2
  -- `plainOp` answers for a value with `==`, `<=`, `>=` and for a collection with `in`: these four are left
  cases a <;> cases op <;> cases hp <;> unfold Leaf.step <;> rw [if_neg hk'] <;> simp only [ret_present]
  · cases new <;> rfl
  · cases new <;> cases hf : f.cfu <;> rfl
  · cases new <;> cases hf : f.cfu <;> rfl
  · cases newC <;> rfl

@[simp] theorem after_old : (s.after o op x).old = s.old := by cases op <;> rfl
@[simp] theorem after_kind : (s.after o op x).kind = op.kind := by cases op <;> rfl

/-- the argument has the shape the operation needs -/
def _root_.ISnap.opFits : Option (OldArg V) → Op → Prop
  | none, _ => True
  | some (.leaf _ _), .isin => False
  | some (.leaf _ _), _ => True
  | some (.coll _), .isin => True
  | _, _ => False

theorem plainOp_cases (o : Ops V) (a : OldArg V) (op : Op) (x : V) :
    (¬opFits (some a) op ∧ plainOp o a op x = .unsupported) ∨
      (opFits (some a) op ∧ ∃ r, plainOp o a op x = .val r) := by
  cases a <;> cases op <;> first | exact .inl ⟨id, rfl⟩ | exact .inr ⟨trivial, _, rfl⟩

theorem step_st_of_fits (hk : s.kind = .undecided ∨ s.kind = op.kind) (hfit : opFits s.old op) :
    (s.step o f op x true).st = s.after o op x := by
  rcases Option.eq_none_or_eq_some s.old with hold | ⟨a, hold⟩
  · simp [step_missing hk hold]
  · obtain ⟨_, r, hp⟩ := (plainOp_cases o a op x).resolve_left fun h => h.1 (hold ▸ hfit)
    simp [step_present hk hold hp]

theorem step_outcome (o : Ops V) (f : Flags) (s : Leaf V) (op : Op) (x : V) (c : Bool) :
    s.step o f op x c = { st := s, res := .typeError } ∨
    s.step o f op x c = { st := s, res := .unsupported } ∨
    (opFits s.old op ∧
      ∃ dm, s.step o f op x c = { st := { s with kind := op.kind }, dm := dm, res := .usageError }) ∨
    (opFits s.old op ∧
      ∃ dm di b, s.step o f op x c = { st := s.after o op x, dm := dm, di := di, res := .val b }) := by
  by_cases hk : s.kind = .undecided ∨ s.kind = op.kind
  · rcases Option.eq_none_or_eq_some s.old with hold | ⟨a, hold⟩
    · rw [step_missing hk hold, hold]
      cases s.grows o op x && !c
      · exact .inr (.inr (.inr ⟨trivial, _, _, _, rfl⟩))
      · exact .inr (.inr (.inl ⟨trivial, _, rfl⟩))
    · rcases plainOp_cases o a op x with ⟨_, hp⟩ | ⟨hfit, r, hp⟩
      · exact .inr (.inl (step_misfit hk hold hp))
      · rw [step_present hk hold hp, hold]
        cases s.grows o op x && !c
        · exact .inr (.inr (.inr ⟨hfit, _, _, _, rfl⟩))
        · exact .inr (.inr (.inl ⟨hfit, _, rfl⟩))
  · exact .inl (step_typeError hk)

theorem step_blocked (hk : s.kind = .undecided ∨ s.kind = op.kind) (hg : s.grows o op x = true)
    (hsup : (s.step o f op x false).res ≠ .unsupported) :
    (s.step o f op x false).res = .usageError ∧ (s.step o f op x false).st = { s with kind := op.kind } ∧
      (s.step o f op x false).di = 0 := by
  rcases Option.eq_none_or_eq_some s.old with hold | ⟨a, hold⟩
  · simp [step_missing hk hold, hg]
  · rcases plainOp_cases o a op x with ⟨_, hp⟩ | ⟨_, r, hp⟩
    · rw [step_misfit hk hold hp] at hsup; exact absurd rfl hsup
    · simp [step_present hk hold hp, hg]

theorem step_usageError (h : (s.step o f op x c).res = .usageError) :
    (s.step o f op x c).st = { s with kind := op.kind } := by
  rcases step_outcome o f s op x c with h' | h' | ⟨_, _, h'⟩ | ⟨_, _, _, _, h'⟩ <;> rw [h'] at h ⊢ <;> cases h

end Leaf
end ISnap
