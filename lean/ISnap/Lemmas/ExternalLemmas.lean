import ISnap.Model.External
/-
  Lemmas about the external storage model (`ISnap.Model.External`): what each operation does to membership, and
  the store invariants `Hashed`, `Uniq`, `NoShadow`.  An invariant is proved for `filter`, `outsource` and
  `persist`, of which every step is built; `step_inv` and `run_inv` carry it to steps and histories.
-/
namespace ISnap.External

theorem sameName_iff (a b : Entry) :
    sameName a b = true ↔ a.hash = b.hash ∧ a.isNew = b.isNew ∧ a.suffix = b.suffix := by
  simp [sameName, and_assoc]

theorem sameName_refl (a : Entry) : sameName a a = true := (sameName_iff a a).2 ⟨rfl, rfl, rfl⟩

theorem sameName_comm (a b : Entry) : sameName a b = sameName b a := by
  rw [Bool.eq_iff_iff, sameName_iff, sameName_iff]
  constructor <;> (rintro ⟨h1, h2, h3⟩; exact ⟨h1.symm, h2.symm, h3.symm⟩)

theorem sameName_false_of_isNew_ne {a b : Entry} (h : a.isNew ≠ b.isNew) : sameName a b = false := by
  cases hs : sameName a b
  · rfl
  · exact absurd ((sameName_iff a b).1 hs).2.1 h

/-- I1: the file name is the hash of the content -/
def Hashed (H : Nat → Hash) (s : Store) : Prop := ∀ e ∈ s, e.hash = H e.data

def WellHashedEv (H : Nat → Hash) : Ev → Prop
  | .outsource h _ d => h = H d
  | _ => True

/-- every `outsource h sfx d` of the history has `h = H d` -/
def WellHashed (H : Nat → Hash) (evs : List Ev) : Prop := ∀ ev ∈ evs, WellHashedEv H ev

/-- never two files with the same name -/
def Uniq (s : Store) : Prop := s.Pairwise (fun a b => sameName a b = false)

/-- never `<h>-new.<sfx>` next to `<h>.<sfx>` -/
def NoShadow (s : Store) : Prop :=
  ∀ a ∈ s, ∀ b ∈ s, a.hash = b.hash → a.suffix = b.suffix → a.isNew = b.isNew

/-- exactly one entry of `s` (namely `e`) is matched by the pattern `persist` builds from `r` -/
def PrefixUnique (s : Store) (r : Ref) (e : Entry) : Prop :=
  e ∈ s ∧ persistMatch r e = true ∧ ∀ x ∈ s, persistMatch r x = true → x = e

def IsStart : Ev → Prop
  | .start => True
  | _ => False

@[simp] theorem run_nil (s : Store) : run s [] = s := rfl
@[simp] theorem run_cons (s : Store) (ev : Ev) (evs : List Ev) : run s (ev :: evs) = run (step s ev) evs := rfl
theorem run_append (s : Store) (a b : List Ev) : run s (a ++ b) = run (run s a) b := by
  simp [run, List.foldl_append]
theorem run_snoc (s : Store) (a : List Ev) (ev : Ev) : run s (a ++ [ev]) = step (run s a) ev := by
  simp [run_append]

theorem run_inv {Inv : Store → Prop} {P : Ev → Prop}
    (hstep : ∀ s ev, P ev → Inv s → Inv (step s ev)) :
    ∀ (evs : List Ev) (s : Store), (∀ ev ∈ evs, P ev) → Inv s → Inv (run s evs) :=
  fun evs _ hp h => List.foldlRecOn evs step h fun s hs ev hev => hstep s ev (hp ev hev) hs

theorem persistAll_inv {Inv : Store → Prop} (hpersist : ∀ {s}, Inv s → ∀ r, Inv (persist s r))
    {rs : List Ref} {s : Store} (h : Inv s) : Inv (persistAll s rs) := by
  induction rs generalizing s with
  | nil => exact h
  | cons r rs ih => exact ih (hpersist h r)

theorem step_inv {Inv : Store → Prop} {P : Ev → Prop}
    (hfilter : ∀ {s}, Inv s → ∀ p, Inv (s.filter p))
    (hpersist : ∀ {s}, Inv s → ∀ r, Inv (persist s r))
    (hout : ∀ {s}, Inv s → ∀ h sfx d, P (.outsource h sfx d) → Inv (outsource s h sfx d))
    (s : Store) (ev : Ev) (hev : P ev) (h : Inv s) : Inv (step s ev) := by
  cases ev with
  | start => exact hfilter h _
  | outsource hh sfx d => exact hout h hh sfx d hev
  | finish w a t =>
    have hp : Inv (persistAll s w) := persistAll_inv hpersist h
    cases t
    · exact hp
    · exact hfilter hp _

theorem mem_save {s : Store} {e x : Entry} :
    x ∈ save s e ↔ (x ∈ s ∧ sameName x e = false) ∨ x = e := by
  simp [save, List.mem_filter]

theorem mem_prune {s : Store} {x : Entry} : x ∈ prune s ↔ x ∈ s ∧ x.isNew = false := by
  simp [prune, List.mem_filter]

theorem outsource_cases (s : Store) (h : Hash) (sfx d : Nat) :
    outsource s h sfx d = s ∨
      ((∀ x ∈ s, x.hash = h → x.suffix = sfx → x.isNew = true) ∧
        outsource s h sfx d = save s { hash := h, isNew := true, suffix := sfx, data := d }) := by
  unfold outsource
  split
  · exact Or.inl rfl
  · rename_i hn
    refine Or.inr ⟨?_, rfl⟩
    intro x hx hh hs
    cases hnew : x.isNew
    · exact absurd (List.any_eq_true.2 ⟨x, hx, by simp [hh, hs, hnew]⟩) hn
    · rfl

theorem mem_outsource {s : Store} {h : Hash} {sfx d : Nat} {x : Entry}
    (hx : x ∈ outsource s h sfx d) :
    x ∈ s ∨ x = { hash := h, isNew := true, suffix := sfx, data := d } := by
  rcases outsource_cases s h sfx d with h1 | ⟨_, h1⟩
  · rw [h1] at hx; exact Or.inl hx
  · rw [h1, mem_save] at hx
    exact hx.imp_left And.left

theorem PrefixUnique.of_filter {s : Store} {r : Ref} {e : Entry} (h : s.filter (persistMatch r) = [e]) :
    PrefixUnique s r e := by
  have he : e ∈ s.filter (persistMatch r) := by rw [h]; exact List.mem_singleton_self e
  refine ⟨(List.mem_filter.1 he).1, (List.mem_filter.1 he).2, fun x hx hm => ?_⟩
  have : x ∈ s.filter (persistMatch r) := List.mem_filter.2 ⟨hx, hm⟩
  rwa [h, List.mem_singleton] at this

/-- the pattern of `persist` looks at hash and suffix only: its unique match is the only entry with that hash
    and suffix, `-new` or not -/
theorem PrefixUnique.eq_of_name {s : Store} {r : Ref} {e : Entry} (h : PrefixUnique s r e) {x : Entry}
    (hx : x ∈ s) (hh : x.hash = e.hash) (hs : x.suffix = e.suffix) : x = e :=
  h.2.2 x hx (by rw [← h.2.1, persistMatch, persistMatch, hh, hs])

/-- so the rename target of `persist` never exists -/
theorem PrefixUnique.fresh {s : Store} {r : Ref} {e : Entry} (h : PrefixUnique s r e) (hn : e.isNew = true)
    {x : Entry} (hx : x ∈ s) : sameName x { e with isNew := false } = false := by
  cases hs : sameName x { e with isNew := false }
  · rfl
  · obtain ⟨hh, hxn, hsf⟩ := (sameName_iff _ _).1 hs
    rw [h.eq_of_name hx hh hsf, hn] at hxn
    cases hxn

/-- the definition also removes a file that has the target name; there is none (`fresh`) -/
theorem persist_cases (s : Store) (r : Ref) :
    persist s r = s ∨
      ∃ e, PrefixUnique s r e ∧ e.isNew = true ∧
        persist s r = s.filter (fun x => !sameName x e) ++ [{ e with isNew := false }] := by
  unfold persist
  split
  · rename_i e he
    cases hn : e.isNew
    · exact Or.inl rfl
    · have hu := PrefixUnique.of_filter he
      refine Or.inr ⟨e, hu, hn, ?_⟩
      rw [if_pos rfl]
      show s.filter _ ++ _ = _
      congr 1
      exact List.filter_congr fun x hx => by rw [hu.fresh hn hx, Bool.not_false, Bool.and_true]
  · exact Or.inl rfl

theorem mem_persist {s : Store} {r : Ref} {x : Entry} (hx : x ∈ persist s r) :
    x ∈ s ∨ (x.isNew = false ∧ { x with isNew := true } ∈ s ∧ persistMatch r x = true) := by
  rcases persist_cases s r with h | ⟨e, hu, hn, h⟩
  · rw [h] at hx; exact Or.inl hx
  · rw [h, List.mem_append, List.mem_filter, List.mem_singleton] at hx
    rcases hx with hx | rfl
    · exact Or.inl hx.1
    · refine Or.inr ⟨rfl, ?_, hu.2.1⟩
      rw [← hn]; exact hu.1

theorem persist_keeps_persisted {s : Store} {r : Ref} {x : Entry} (hx : x ∈ s) (hn : x.isNew = false) :
    x ∈ persist s r := by
  rcases persist_cases s r with h | ⟨e, _, hen, h⟩ <;> rw [h]
  · exact hx
  · refine List.mem_append_left _ (List.mem_filter.2 ⟨hx, ?_⟩)
    rw [sameName_false_of_isNew_ne (by rw [hn, hen]; decide)]; rfl

theorem mem_persistAll {rs : List Ref} {s : Store} {x : Entry} (hx : x ∈ persistAll s rs) :
    x ∈ s ∨ (x.isNew = false ∧ { x with isNew := true } ∈ s ∧ ∃ r ∈ rs, persistMatch r x = true) := by
  induction rs generalizing s with
  | nil => exact Or.inl hx
  | cons r rs ih =>
    rcases ih hx with h | ⟨h1, h2, r', hr', h3⟩
    · rcases mem_persist h with h | ⟨h1, h2, h3⟩
      · exact Or.inl h
      · exact Or.inr ⟨h1, h2, r, List.mem_cons_self, h3⟩
    · -- `persist` creates no `-new` file
      exact Or.inr ⟨h1, (mem_persist h2).resolve_right (fun h => nomatch h.1), r',
        List.mem_cons_of_mem _ hr', h3⟩

theorem persistAll_keeps_persisted {rs : List Ref} {s : Store} {x : Entry} (hx : x ∈ s)
    (hn : x.isNew = false) : x ∈ persistAll s rs :=
  persistAll_inv (Inv := (x ∈ ·)) (fun h _ => persist_keeps_persisted h hn) hx

theorem mem_finish_iff {s : Store} {w a : List Ref} {t : Bool} {x : Entry} :
    x ∈ finish s w a t ↔ x ∈ persistAll s w ∧ (t = true → a.any (globMatch · x) = true) := by
  cases t
  · exact ⟨fun h => ⟨h, nofun⟩, And.left⟩
  · exact List.mem_filter.trans (and_congr_right fun _ => ⟨fun h _ => h, fun h => h rfl⟩)

theorem mem_step {s : Store} {ev : Ev} {e : Entry} (he : e ∈ step s ev) :
    e ∈ s ∨ (e.isNew = true ∧ ev = .outsource e.hash e.suffix e.data) ∨
      (e.isNew = false ∧ { e with isNew := true } ∈ s ∧
        ∃ w a t, ev = .finish w a t ∧ ∃ r ∈ w, persistMatch r e = true) := by
  cases ev with
  | start => exact Or.inl (mem_prune.1 he).1
  | outsource hh sfx d =>
    rcases mem_outsource he with h | h
    · exact Or.inl h
    · subst h; exact Or.inr (Or.inl ⟨rfl, rfl⟩)
  | finish w a t =>
    rcases mem_persistAll (mem_finish_iff.1 he).1 with h | ⟨h1, h2, h3⟩
    · exact Or.inl h
    · exact Or.inr (Or.inr ⟨h1, h2, w, a, t, rfl, h3⟩)

theorem persisted_mem_step {s : Store} {e : Entry} (he : e ∈ s) (hn : e.isNew = false) (ev : Ev) :
    e ∈ step s ev ∨ ∃ w a, ev = .finish w a true ∧ ∀ r ∈ a, globMatch r e = false := by
  cases ev with
  | start => exact Or.inl (mem_prune.2 ⟨he, hn⟩)
  | outsource h sfx d =>
    refine Or.inl ?_
    show e ∈ outsource s h sfx d
    rcases outsource_cases s h sfx d with h1 | ⟨_, h1⟩ <;> rw [h1]
    · exact he
    · exact mem_save.2 (Or.inl ⟨he, sameName_false_of_isNew_ne (by rw [hn]; exact Bool.false_ne_true)⟩)
  | finish w a t =>
    have hp : e ∈ persistAll s w := persistAll_keeps_persisted he hn
    cases t
    · exact Or.inl hp
    · cases hg : a.any (globMatch · e)
      · exact Or.inr ⟨w, a, rfl, fun r hr => Bool.eq_false_iff.2 (List.any_eq_false.1 hg r hr)⟩
      · exact Or.inl (List.mem_filter.2 ⟨hp, hg⟩)

theorem mem_run {evs : List Ev} {s : Store} {e : Entry} (he : e ∈ run s evs) :
    e ∈ s ∨ (e.isNew = true ∧ .outsource e.hash e.suffix e.data ∈ evs) ∨
      (e.isNew = false ∧ ∃ pre w a t post, evs = pre ++ .finish w a t :: post ∧
        { e with isNew := true } ∈ run s pre ∧ ∃ r ∈ w, persistMatch r e = true) := by
  induction evs generalizing s with
  | nil => exact Or.inl he
  | cons ev evs ih =>
    rcases ih he with h | ⟨hn, h⟩ | ⟨hn, pre, w, a, t, post, h1, h2, h3⟩
    · rcases mem_step h with h | ⟨hn, h⟩ | ⟨hn, h2, w, a, t, h3, h4⟩
      · exact Or.inl h
      · exact Or.inr (Or.inl ⟨hn, h ▸ List.mem_cons_self⟩)
      · exact Or.inr (Or.inr ⟨hn, [], w, a, t, evs, by rw [h3]; rfl, h2, h4⟩)
    · exact Or.inr (Or.inl ⟨hn, List.mem_cons_of_mem _ h⟩)
    · exact Or.inr (Or.inr ⟨hn, ev :: pre, w, a, t, post, by rw [h1]; rfl, h2, h3⟩)

theorem Hashed.filter {H : Nat → Hash} {s : Store} (h : Hashed H s) (p : Entry → Bool) :
    Hashed H (s.filter p) := fun e he => h e (List.mem_filter.1 he).1

theorem Hashed.outsource {H : Nat → Hash} {s : Store} (h : Hashed H s) (hh : Hash) (sfx d : Nat)
    (hd : hh = H d) : Hashed H (outsource s hh sfx d) := by
  intro x hx
  rcases mem_outsource hx with hx | rfl
  · exact h x hx
  · exact hd

theorem Hashed.persist {H : Nat → Hash} {s : Store} (h : Hashed H s) (r : Ref) :
    Hashed H (persist s r) := by
  intro x hx
  rcases mem_persist hx with hx | ⟨_, hx, _⟩
  · exact h x hx
  · exact h { x with isNew := true } hx

theorem Uniq.filter {s : Store} (h : Uniq s) (p : Entry → Bool) : Uniq (s.filter p) :=
  List.Pairwise.filter p h

theorem Uniq.snoc_filter {s : Store} (h : Uniq s) (e : Entry) (p : Entry → Bool)
    (hp : ∀ x ∈ s, p x = true → sameName x e = false) : Uniq (s.filter p ++ [e]) := by
  unfold Uniq
  rw [List.pairwise_append]
  refine ⟨h.filter p, List.pairwise_singleton _ _, ?_⟩
  intro a ha b hb
  rw [List.mem_singleton.1 hb]
  exact hp a (List.mem_filter.1 ha).1 (List.mem_filter.1 ha).2

theorem Uniq.outsource {s : Store} (h : Uniq s) (hh : Hash) (sfx d : Nat) : Uniq (outsource s hh sfx d) := by
  rcases outsource_cases s hh sfx d with h1 | ⟨_, h1⟩ <;> rw [h1]
  · exact h
  · exact h.snoc_filter _ _ (by intro x _ hx; simpa using hx)

theorem Uniq.persist {s : Store} (h : Uniq s) (r : Ref) : Uniq (persist s r) := by
  rcases persist_cases s r with h1 | ⟨e, hu, hn, h1⟩ <;> rw [h1]
  · exact h
  · exact h.snoc_filter _ _ (fun x hx _ => hu.fresh hn hx)

theorem Uniq.eq_of_sameName {s : Store} (h : Uniq s) {a b : Entry} (ha : a ∈ s) (hb : b ∈ s)
    (hab : sameName a b = true) : a = b :=
  List.Pairwise.forall_of_forall_of_flip (R := fun x y => sameName x y = true → x = y) (fun _ _ _ => rfl)
    (List.Pairwise.imp (fun hf ht => absurd (hf ▸ ht) Bool.false_ne_true) h)
    (List.Pairwise.imp (fun hf ht => absurd (hf ▸ sameName_comm _ _ ▸ ht) Bool.false_ne_true) h) ha hb hab

theorem NoShadow.filter {s : Store} (h : NoShadow s) (p : Entry → Bool) : NoShadow (s.filter p) :=
  fun a ha b hb => h a (List.mem_filter.1 ha).1 b (List.mem_filter.1 hb).1

theorem NoShadow.snoc_filter {s : Store} (h : NoShadow s) (e : Entry) (p : Entry → Bool)
    (hp : ∀ x ∈ s, p x = true → x.hash = e.hash → x.suffix = e.suffix → x.isNew = e.isNew) :
    NoShadow (s.filter p ++ [e]) := by
  intro a ha b hb hab hsab
  rw [List.mem_append, List.mem_filter, List.mem_singleton] at ha hb
  rcases ha with ha | rfl <;> rcases hb with hb | rfl
  · exact h a ha.1 b hb.1 hab hsab
  · exact hp a ha.1 ha.2 hab hsab
  · exact (hp b hb.1 hb.2 hab.symm hsab.symm).symm
  · rfl

theorem NoShadow.outsource {s : Store} (h : NoShadow s) (hh : Hash) (sfx d : Nat) :
    NoShadow (outsource s hh sfx d) := by
  rcases outsource_cases s hh sfx d with h1 | ⟨hnone, h1⟩ <;> rw [h1]
  · exact h
  · exact h.snoc_filter _ _ (fun x hx _ => hnone x hx)

theorem NoShadow.persist {s : Store} (h : NoShadow s) (r : Ref) : NoShadow (persist s r) := by
  rcases persist_cases s r with h1 | ⟨e, hu, _, h1⟩ <;> rw [h1]
  · exact h
  · -- an entry with the hash and suffix of `e` is `e`, and the filter removed it
    refine h.snoc_filter _ _ (fun x hx hp hh hs => ?_)
    rw [hu.eq_of_name hx hh hs, sameName_refl] at hp
    cases hp

theorem persist_of_filter {s : Store} {r : Ref} {e : Entry} (hf : s.filter (persistMatch r) = [e]) :
    persist s r =
      if e.isNew then
        s.filter (fun x => !sameName x e && !sameName x { e with isNew := false })
          ++ [{ e with isNew := false }]
      else s := by
  unfold persist; rw [hf]

theorem persist_of_not_singleton {s : Store} {r : Ref} (hf : (s.filter (persistMatch r)).length ≠ 1) :
    persist s r = s := by
  unfold persist
  split
  · rename_i e he; rw [he] at hf; exact absurd rfl hf
  · rfl

theorem save_idempotent (s : Store) (e : Entry) : save (save s e) e = save s e := by
  simp [save, List.filter_append, List.filter_filter, sameName_refl]

theorem PrefixUnique.filter_eq {s : Store} {r : Ref} {e : Entry} (h : PrefixUnique s r e) (hu : Uniq s) :
    s.filter (persistMatch r) = [e] := by
  have hall : ∀ x ∈ s.filter (persistMatch r), x = e :=
    fun x hx => h.2.2 x (List.mem_filter.1 hx).1 (List.mem_filter.1 hx).2
  have hmem : e ∈ s.filter (persistMatch r) := List.mem_filter.2 ⟨h.1, h.2.1⟩
  have hnd : Uniq (s.filter (persistMatch r)) := hu.filter _
  match s.filter (persistMatch r), hall, hmem, hnd with
  | [a], hall, _, _ => rw [hall a (List.mem_singleton_self a)]
  | a :: b :: t, hall, _, hnd =>
    have := (List.pairwise_cons.1 hnd).1 b List.mem_cons_self
    rw [hall a List.mem_cons_self, hall b (List.mem_cons_of_mem _ List.mem_cons_self), sameName_refl] at this
    cases this

theorem PrefixUnique.persist {s : Store} {r : Ref} {e : Entry} (h : PrefixUnique s r e) (r' : Ref) :
    PrefixUnique (External.persist s r') r e ∨
      (e.isNew = true ∧ PrefixUnique (External.persist s r') r { e with isNew := false }) := by
  rcases persist_cases s r' with hp | ⟨e', hu', hn', hp⟩ <;> rw [hp]
  · exact Or.inl h
  · by_cases hee : e = e'
    · subst hee
      refine Or.inr ⟨hn', by simp, h.2.1, fun x hx hxm => ?_⟩
      rw [List.mem_append, List.mem_filter, List.mem_singleton] at hx
      rcases hx with ⟨hxs, hxf⟩ | hx
      · rw [h.2.2 x hxs hxm, sameName_refl] at hxf; cases hxf
      · exact hx
    · refine Or.inl ⟨List.mem_append_left _ (List.mem_filter.2 ⟨h.1, ?_⟩), h.2.1, fun x hx hxm => ?_⟩
      · cases hs : sameName e e'
        · rfl
        · obtain ⟨hh, _, hsf⟩ := (sameName_iff _ _).1 hs
          exact absurd (hu'.eq_of_name h.1 hh hsf) hee
      · rw [List.mem_append, List.mem_filter, List.mem_singleton] at hx
        rcases hx with ⟨hxs, _⟩ | rfl
        · exact h.2.2 x hxs hxm
        · exact absurd (h.2.2 e' hu'.1 hxm).symm hee

theorem PrefixUnique.persist_self {s : Store} {r : Ref} {e : Entry} (h : PrefixUnique s r e) (hu : Uniq s) :
    PrefixUnique (External.persist s r) r { e with isNew := false } := by
  rcases h.persist r with h' | ⟨_, h'⟩
  · cases hn : e.isNew
    · rw [← hn]; exact h'
    · -- a `-new` match does not stay: `persist` renames it
      have := h'.1
      rw [persist_of_filter (h.filter_eq hu), if_pos hn, List.mem_append, List.mem_filter,
        List.mem_singleton, sameName_refl] at this
      rcases this with ⟨_, hf⟩ | he
      · cases hf
      · rw [he] at hn; cases hn
  · exact h'

theorem persistAll_persists {rs : List Ref} {s : Store} {r : Ref} {e : Entry} (hu : Uniq s)
    (he : PrefixUnique s r e) (hr : r ∈ rs) : PrefixUnique (persistAll s rs) r { e with isNew := false } := by
  induction rs generalizing s e with
  | nil => cases hr
  | cons r' rs ih =>
    by_cases hrr : r' = r
    · subst hrr
      -- once persisted, the match is left alone by every later `persist`
      exact persistAll_inv (Inv := (PrefixUnique · r' _)) (s := persist s r')
        (fun ht r'' => (ht.persist r'').resolve_right (fun h => Bool.noConfusion h.1)) (he.persist_self hu)
    · have hr : r ∈ rs := (List.mem_cons.1 hr).resolve_left (Ne.symm hrr)
      rcases he.persist r' with h' | ⟨_, h'⟩
      · exact ih (hu.persist r') h' hr
      · exact ih (e := { e with isNew := false }) (hu.persist r') h' hr

theorem lookup_eq_some_iff {s : Store} {r : Ref} {e : Entry} : lookup s r = some e ↔ lookupAll s r = [e] := by
  unfold lookup
  split
  · rename_i e' h; rw [h]; simp
  · rename_i h; exact ⟨fun h' => (nomatch h'), fun h' => absurd h' (h e)⟩

theorem isStart_iff (ev : Ev) : IsStart ev ↔ ev = .start := by
  cases ev <;> simp [IsStart]

end ISnap.External
