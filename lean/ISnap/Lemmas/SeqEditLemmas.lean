import ISnap.Model.SeqEdit
/-
  Lemmas for Props/C03b.lean: the text-level sequence edit (`Model/SeqEdit.lean`).

  The parser is run over the output piecewise: `Seg st a ks st'` says that the tokens `a` take the parser
  from state `st` to state `st'` and emit the elements `ks`, in front of anything that parses from `st'`.
  One invariant of the loop (`Inv`) says that what has been written is such a piece and that
  written ++ pending ++ still to come is what the display must hold.  What is copied verbatim is a second,
  exact statement about the loop (`loop_kept`).
-/
namespace ISnap.SeqEdit

def Seg (st : PState) (a : List Tok) (ks : List Nat) (st' : PState) : Prop :=
  ∀ b ks' tc, parseFrom st' b = some (ks', tc) → parseFrom st (a ++ b) = some (ks ++ ks', tc)

theorem Seg.parse_nil {st st' : PState} {a : List Tok} {ks : List Nat} (h : Seg st a ks st') :
    parseFrom st a = some (ks, st' == .afterComma) := by
  simpa using h [] [] _ rfl

theorem Seg.nil (st : PState) : Seg st [] [] st :=
  fun _ _ _ h => h

theorem Seg.append {st st' st'' : PState} {a a' : List Tok} {ks ks' : List Nat}
    (h1 : Seg st a ks st') (h2 : Seg st' a' ks' st'') : Seg st (a ++ a') (ks ++ ks') st'' := by
  intro b ks'' tc h
  rw [List.append_assoc, List.append_assoc]
  exact h1 _ _ _ (h2 _ _ _ h)

theorem Seg.cast {st st' : PState} {a a' : List Tok} {ks : List Nat}
    (h : Seg st a ks st') (ha : a = a') : Seg st a' ks st' :=
  ha ▸ h

theorem parseFrom_ws (st : PState) (k : Nat) (b : List Tok) :
    parseFrom st (.ws k :: b) = parseFrom st b := by
  cases st <;> rfl

theorem Seg.ws (st : PState) (k : Nat) : Seg st [.ws k] [] st :=
  fun b _ _ h => (parseFrom_ws st k b).trans h

theorem Seg.comma : Seg .afterElem [.comma] [] .afterComma :=
  fun _ _ _ h => h

theorem Seg.elem {st : PState} (k : Nat) (h : st ≠ .afterElem) : Seg st [.elem k] [k] .afterElem := by
  intro b ks' tc hb
  -- with an element in front, `parseFrom` is this match on the parse of the rest
  have key : (match parseFrom .afterElem b with | some (ks, tc) => some (k :: ks, tc) | none => none)
      = some ([k] ++ ks', tc) := by rw [hb]; rfl
  cases st
  · exact key
  · exact absurd rfl h
  · exact key

theorem Seg.sep : Seg .afterElem sep [] .afterComma :=
  Seg.comma.append (Seg.ws .afterComma 0)

theorem Seg.joinCode {st : PState} (h : st ≠ .afterElem) :
    ∀ nc : List Nat, nc ≠ [] → Seg st (joinCode nc) nc .afterElem
  | [], hne => absurd rfl hne
  | [a], _ => Seg.elem a h
  | a :: b :: rest, _ => by
    have ih := Seg.joinCode (st := .afterComma) (by decide) (b :: rest) (by simp)
    exact (Seg.elem a h).append (Seg.sep.append ih)

theorem Seg.gap (st : PState) (a : List Tok)
    (h : a.all (fun t => match t with | .elem _ => false | _ => true) = true)
    (hc : a.count .comma ≤ 1) (hst : a.count .comma = 0 ∨ st = .afterElem) :
    Seg st a [] (if a.count .comma = 0 then st else .afterComma) := by
  induction a generalizing st with
  | nil => exact Seg.nil st
  | cons t a ih =>
    rw [List.all_cons, Bool.and_eq_true] at h
    cases t with
    | ws k =>
      rw [List.count_cons_of_ne Tok.noConfusion] at hc hst ⊢
      exact (Seg.ws st k).append (ih st h.2 hc hst)
    | comma =>
      rw [List.count_cons_self] at hc hst ⊢
      have h0 : a.count .comma = 0 := Nat.eq_zero_of_le_zero (Nat.le_of_succ_le_succ hc)
      obtain rfl : st = .afterElem := hst.resolve_left (Nat.succ_ne_zero _)
      have ih := ih .afterComma h.2 (h0 ▸ Nat.zero_le 1) (.inl h0)
      rw [if_pos h0] at ih
      rw [if_neg (Nat.succ_ne_zero _)]
      exact Seg.comma.append ih
    | elem k => cases h.1

theorem Seg.blank (st : PState) {a : List Tok} (h : isBlank a = true) : Seg st a [] st := by
  induction a with
  | nil => exact Seg.nil st
  | cons t a ih =>
    rw [isBlank, List.all_cons, Bool.and_eq_true] at h
    cases t with
    | ws k => exact (Seg.ws st k).append (ih h.2)
    | _ => cases h.1

theorem Seg.sepGap {a : List Tok} (h : isSep a = true) : Seg .afterElem a [] .afterComma := by
  rw [isSep, Bool.and_eq_true, beq_iff_eq] at h
  have := Seg.gap .afterElem a h.1 (Nat.le_of_eq h.2) (.inr rfl)
  rwa [h.2, if_neg Nat.one_ne_zero] at this

theorem parse_tail {a : List Tok} (h : isTail a = true) : ∃ tc, parseFrom .afterElem a = some ([], tc) := by
  rw [isTail, Bool.and_eq_true, decide_eq_true_eq] at h
  exact ⟨_, (Seg.gap .afterElem a h.1 h.2 (.inr rfl)).parse_nil⟩

def pst (isStart : Bool) : PState := if isStart then .start else .afterElem

/-- what `wfGaps` asks of the gap in front of the remaining entries (`last`: there are none) -/
def goodGap (isStart : Bool) (g : List Tok) (last : Bool) : Bool :=
  if isStart then isBlank g else if last then isTail g else isSep g

theorem wfGapsTail_cons (e : Entry) (rest : List Entry) :
    wfGaps.wfGapsTail (e :: rest) = (goodGap false e.gapAfter rest.isEmpty && wfGaps.wfGapsTail rest) := by
  cases rest
  · exact (Bool.and_true _).symm
  · rfl

theorem wfGaps_eq (gap0 : List Tok) (es : List Entry) :
    wfGaps gap0 es = (goodGap true gap0 es.isEmpty && wfGaps.wfGapsTail es) := by
  match es with
  | [] => exact (Bool.and_true _).symm
  | [e] => rfl
  | e :: e' :: rest => exact Bool.and_assoc ..

theorem goodGap_elem {b : Bool} {g : List Tok} (h : goodGap b g false = true) (k : Nat) :
    Seg (pst b) (g ++ [.elem k]) [k] .afterElem := by
  cases b
  · exact (Seg.sepGap h).append (Seg.elem k (by decide))
  · exact (Seg.blank .start h).append (Seg.elem k (by decide))

theorem goodGap_end {b : Bool} {g : List Tok} (h : goodGap b g true = true) :
    ∃ tc, parseFrom (pst b) g = some ([], tc) := by
  cases b
  · exact parse_tail h
  · exact ⟨_, (Seg.blank .start h).parse_nil⟩

theorem original_parseFrom (es : List Entry) (g : List Tok) (b : Bool)
    (hg : goodGap b g es.isEmpty = true) (hw : wfGaps.wfGapsTail es = true) :
    ∃ tc, parseFrom (pst b) (original g es) = some (es.map (·.key), tc) := by
  induction es generalizing g b with
  | nil => exact goodGap_end hg
  | cons e rest ih =>
    rw [wfGapsTail_cons, Bool.and_eq_true] at hw
    obtain ⟨tc, ih⟩ := ih e.gapAfter false hw.1 hw.2
    exact ⟨tc, goodGap_elem hg e.key _ _ _ ih⟩

/-- the `seg` of `step`: the text written in front of a kept element -/
def segOf (s : St) (nc : List Nat) : List Tok :=
  if s.deleted || !nc.isEmpty then
    (if s.isStart then [] else sep) ++ (if nc.isEmpty then [] else joinCode nc ++ sep)
  else s.orig

theorem step_del {ins : List (List Nat)} {i : Nat} {e : Entry} {s : St} (h : e.keep = false) :
    step ins i e s = { s with newCode := s.newCode ++ ins.getD i [], deleted := true,
                              orig := s.orig ++ [.elem e.key] ++ e.gapAfter } := by
  simp [step, h]

theorem step_keep {ins : List (List Nat)} {i : Nat} {e : Entry} {s : St} (h : e.keep = true) :
    step ins i e s =
      { newCode := [], deleted := false, isStart := false,
        elements := s.elements + (s.newCode ++ ins.getD i []).length + 1,
        orig := e.gapAfter, out := s.out ++ segOf s (s.newCode ++ ins.getD i []) ++ [.elem e.key] } := by
  simp [step, h, segOf]

theorem segOf_elem (s : St) (nc : List Nat)
    (hc : s.deleted = false → nc = [] → goodGap s.isStart s.orig false = true) (k : Nat) :
    Seg (pst s.isStart) (segOf s nc ++ [.elem k]) (nc ++ [k]) .afterElem := by
  have hk : Seg .afterComma [.elem k] [k] .afterElem := Seg.elem k (by decide)
  unfold segOf
  by_cases hnc : nc = []
  · subst hnc
    cases hd : s.deleted
    · exact goodGap_elem (hc hd rfl) k
    · cases s.isStart
      · exact (Seg.sep.append hk).cast (by simp)
      · exact Seg.elem k (by decide)
  · have hne : nc.isEmpty = false := by simpa using hnc
    simp only [hne, Bool.not_false, Bool.or_true, if_true]
    cases s.isStart
    · exact (Seg.sep.append ((Seg.joinCode (by decide) nc hnc).append (Seg.sep.append hk))).cast (by simp)
    · exact ((Seg.joinCode (by decide) nc hnc).append (Seg.sep.append hk)).cast (by simp)

/-- The loop invariant: `s` is the state in front of the entries `es`, which begin at position `i`; `ks` are
    the elements written so far, `E` those of the finished display.  While nothing is deleted or pending,
    `orig` is the gap in front of `es` (`clean`). -/
structure Inv (ins : List (List Nat)) (E : List Nat) (s : St) (i : Nat) (es : List Entry) (ks : List Nat) :
    Prop where
  seg : Seg .start s.out ks (pst s.isStart)
  elems : s.elements = ks.length
  start : s.isStart = ks.isEmpty
  content : ks ++ s.newCode ++ expectedFrom ins i es = E
  gaps : wfGaps.wfGapsTail es = true
  clean : s.deleted = false → s.newCode = [] ∧ goodGap s.isStart s.orig es.isEmpty = true

theorem Inv.init {gap0 : List Tok} {es : List Entry} (ins : List (List Nat)) (hwf : wfGaps gap0 es = true) :
    Inv ins (expected es ins) (St.init gap0) 0 es [] := by
  rw [wfGaps_eq, Bool.and_eq_true] at hwf
  exact ⟨Seg.nil .start, rfl, rfl, rfl, hwf.2, fun _ => ⟨rfl, hwf.1⟩⟩

theorem Inv.step {ins : List (List Nat)} {E : List Nat} {s : St} {i : Nat} {e : Entry} {rest : List Entry}
    {ks : List Nat} (h : Inv ins E s i (e :: rest) ks) : ∃ ks', Inv ins E (step ins i e s) (i + 1) rest ks' := by
  have hw := h.gaps
  rw [wfGapsTail_cons, Bool.and_eq_true] at hw
  have hE : ks ++ s.newCode ++ (ins.getD i [] ++ (if e.keep then [e.key] else []) ++
      expectedFrom ins (i + 1) rest) = E := h.content
  cases hk : e.keep
  · rw [step_del hk]
    exact ⟨ks, h.seg, h.elems, h.start,
      by simpa only [hk, List.append_assoc, List.nil_append, Bool.false_eq_true, ↓reduceIte] using hE, hw.2, nofun⟩
  · rw [step_keep hk]
    exact ⟨ks ++ (s.newCode ++ ins.getD i [] ++ [e.key]),
      (h.seg.append (segOf_elem s _ (fun hd _ => (h.clean hd).2) e.key)).cast (by simp),
      by simp only [h.elems, List.length_append, List.length_singleton, Nat.add_assoc], by simp,
      by simpa only [hk, List.append_assoc, List.nil_append, ↓reduceIte] using hE, hw.2, fun _ => ⟨rfl, hw.1⟩⟩

theorem Inv.loop {ins : List (List Nat)} {E : List Nat} {s : St} {i : Nat} {es : List Entry} {ks : List Nat}
    (h : Inv ins E s i es ks) : ∃ ks', Inv ins E (loop ins i es s) (i + es.length) [] ks' := by
  induction es generalizing i s ks with
  | nil => exact ⟨ks, h⟩
  | cons e rest ih =>
    obtain ⟨ks1, h1⟩ := h.step
    rw [List.length_cons, Nat.add_comm _ 1, ← Nat.add_assoc]
    exact ih h1

/-- the `code` of `finish` before the comma of a one-element tuple -/
def codeOf (s : St) (nc : List Nat) : List Tok :=
  if !s.isStart && !(joinCode nc).isEmpty then sep ++ joinCode nc else joinCode nc

/-- the number of elements as `finish` counts them -/
def finEl (ins : List (List Nat)) (n : Nat) (s : St) : Nat :=
  if (ins.getD n []).isEmpty then s.elements else s.elements + (s.newCode ++ ins.getD n []).length

theorem finish_eq (isTuple : Bool) (ins : List (List Nat)) (n : Nat) (s : St) :
    finish isTuple ins n s =
      if !(s.newCode ++ ins.getD n []).isEmpty || s.deleted || finEl ins n s == 1 || n ≤ 1 then
        s.out ++ (if finEl ins n s == 1 && isTuple then codeOf s (s.newCode ++ ins.getD n []) ++ [.comma]
                  else codeOf s (s.newCode ++ ins.getD n []))
      else s.out ++ s.orig := rfl

theorem finish_kept {isTuple : Bool} {ins : List (List Nat)} {n : Nat} {s : St} (hi : ins.getD n [] = [])
    (hn : s.newCode = []) (hd : s.deleted = false) (h1 : s.elements ≠ 1) (h2 : 2 ≤ n) :
    finish isTuple ins n s = s.out ++ s.orig := by
  rw [finish_eq, finEl, hi, hn, hd]
  simp [h1, Nat.not_le.2 h2]

theorem joinCode_isEmpty : ∀ nc : List Nat, (joinCode nc).isEmpty = nc.isEmpty
  | [] => rfl
  | [_] => rfl
  | _ :: _ :: _ => rfl

theorem codeOf_seg (s : St) (nc : List Nat) :
    Seg (pst s.isStart) (codeOf s nc) nc (pst (s.isStart && nc.isEmpty)) := by
  unfold codeOf
  rw [joinCode_isEmpty]
  by_cases hnc : nc = []
  · subst hnc
    simpa [SeqEdit.joinCode] using Seg.nil (pst s.isStart)
  · have hne : nc.isEmpty = false := by simpa using hnc
    cases hs : s.isStart
    · simpa [pst, hne] using Seg.sep.append (Seg.joinCode (st := .afterComma) (by decide) nc hnc)
    · simpa [pst, hne] using Seg.joinCode (st := .start) (by decide) nc hnc

section finish
variable {ins : List (List Nat)} {E : List Nat} {s : St} {n : Nat} {ks : List Nat} (h : Inv ins E s n [] ks)
include h

/-- `finish` counts right unless code is still pending from inside the loop -/
theorem finEl_eq (hnc : s.newCode = []) : finEl ins n s = E.length := by
  unfold finEl
  rw [← h.content, h.elems, hnc]
  show _ = (ks ++ [] ++ ins.getD n []).length
  cases ins.getD n [] <;> simp

theorem finEl_one (h1 : finEl ins n s = 1) : (s.isStart && (s.newCode ++ ins.getD n []).isEmpty) = false := by
  unfold finEl at h1
  rw [h.elems] at h1
  rw [h.start]
  match ks, s.newCode ++ ins.getD n [], h1 with
  | _ :: _, _, _ => rfl
  | [], _ :: _, _ => rfl
  | [], [], h1 => simp at h1

theorem finish_parse (isTuple : Bool) :
    ∃ tc, parse (finish isTuple ins n s) = some (E, tc) ∧ (isTuple = true → finEl ins n s = 1 → tc = true) := by
  have hE : ks ++ (s.newCode ++ ins.getD n []) = E := (List.append_assoc ..).symm.trans h.content
  subst hE
  rw [finish_eq]
  split
  · have hseg := h.seg.append (codeOf_seg s (s.newCode ++ ins.getD n []))
    split
    · next hc =>
      rw [Bool.and_eq_true, beq_iff_eq] at hc
      rw [finEl_one h hc.1] at hseg
      refine ⟨true, ?_, fun _ _ => rfl⟩
      rw [← List.append_assoc]
      exact (hseg.append Seg.comma).parse_nil.trans (by rw [List.append_nil]; rfl)
    · next hc =>
      exact ⟨_, hseg.parse_nil, fun ht h1 => absurd (by rw [ht, h1]; rfl) hc⟩
  · next hc =>
    rw [Bool.or_eq_true, Bool.or_eq_true, Bool.or_eq_true, not_or, not_or, not_or] at hc
    obtain ⟨⟨⟨hnc, hd⟩, hel⟩, _⟩ := hc
    have hnc' : s.newCode ++ ins.getD n [] = [] := by simpa using hnc
    obtain ⟨tc, ht⟩ := goodGap_end (h.clean (by simpa using hd)).2
    rw [hnc', List.append_nil]
    exact ⟨tc, (h.seg _ _ _ ht).trans (by rw [List.append_nil]), fun _ h1 => absurd h1 (by simpa using hel)⟩

end finish

theorem loop_newCode_nil (ins : List (List Nat)) (es : List Entry) (i : Nat) (s : St)
    (ha : insertsAnchored ins i es = true) (h : es.any (·.keep) = false → s.newCode = []) :
    (loop ins i es s).newCode = [] := by
  induction es generalizing i s with
  | nil => exact h rfl
  | cons e rest ih =>
    unfold insertsAnchored at ha
    rw [Bool.and_eq_true, Bool.or_eq_true] at ha
    refine ih (i + 1) _ ha.2 fun hr => ?_
    cases hk : e.keep
    · have hany : (e :: rest).any (·.keep) = false := by simp [hk, hr]
      rw [step_del hk]
      show s.newCode ++ ins.getD i [] = []
      rw [h hany, List.nil_append]
      simpa [hany] using ha.1
    · rw [step_keep hk]

theorem seqUpdate_display (isTuple : Bool) (gap0 : List Tok) (es : List Entry) (ins : List (List Nat))
    (hwf : wfGaps gap0 es = true) :
    ∃ tc, parse (seqUpdate isTuple gap0 es ins) = some (expected es ins, tc) ∧
      (isTuple = true → insertsAnchored ins 0 es = true → (expected es ins).length = 1 → tc = true) := by
  obtain ⟨ks, hinv⟩ := (Inv.init ins hwf).loop
  rw [Nat.zero_add] at hinv
  obtain ⟨tc, htc, hcomma⟩ := finish_parse hinv isTuple
  refine ⟨tc, htc, fun ht ha h1 => hcomma ht ?_⟩
  rwa [finEl_eq hinv (loop_newCode_nil ins es 0 _ ha fun _ => rfl)]

theorem prefixText_cons (g : List Tok) (e : Entry) (rest : List Entry) :
    prefixText g (e :: rest) = g ++ [.elem e.key] ++ prefixText e.gapAfter rest := by
  cases rest
  · exact (List.append_nil _).symm
  · rfl

theorem step_clean {ins : List (List Nat)} {i : Nat} {e : Entry} {s : St} (hk : e.keep = true)
    (hi : ins.getD i [] = []) (hd : s.deleted = false) (hn : s.newCode = []) :
    step ins i e s = { newCode := [], deleted := false, isStart := false, elements := s.elements + 1,
                       orig := e.gapAfter, out := s.out ++ s.orig ++ [.elem e.key] } := by
  rw [step_keep hk, hn, hi]
  simp [segOf, hd]

/-- over kept entries without insertions the loop copies the text; `g`: the gap it stops in front of, still
    in `orig` -/
theorem loop_kept (ins : List (List Nat)) (post pre : List Entry) (i : Nat) (s : St)
    (hk : pre.all (·.keep) = true) (hi : ∀ j, j < pre.length → ins.getD (i + j) [] = [])
    (hd : s.deleted = false) (hn : s.newCode = []) :
    ∃ g, prefixText s.orig pre ++ g = original s.orig pre ∧
      loop ins i (pre ++ post) s = loop ins (i + pre.length) post
        { newCode := [], deleted := false, isStart := s.isStart && pre.isEmpty,
          elements := s.elements + pre.length, orig := g, out := s.out ++ prefixText s.orig pre } := by
  induction pre generalizing i s with
  | nil => exact ⟨s.orig, rfl, by cases s; simp_all [prefixText]⟩
  | cons e pre ih =>
    rw [List.all_cons, Bool.and_eq_true] at hk
    have hs : step ins i e s = _ := step_clean hk.1 (hi 0 (Nat.zero_lt_succ _)) hd hn
    obtain ⟨g, hg, h⟩ := ih (i + 1) (step ins i e s) hk.2
      (fun j hj => by rw [Nat.add_right_comm, Nat.add_assoc]; exact hi (j + 1) (Nat.succ_lt_succ hj))
      (by rw [hs]) (by rw [hs])
    rw [hs] at hg h
    refine ⟨g, by simp [prefixText_cons, original, ← hg], ?_⟩
    show loop ins (i + 1) (pre ++ post) (step ins i e s) = _
    rw [hs, h]
    simp [prefixText_cons, Nat.add_assoc, Nat.add_comm 1]

theorem run_out_prefix (isTuple : Bool) (ins : List (List Nat)) (n : Nat) (es : List Entry) (i : Nat) (s : St) :
    s.out <+: finish isTuple ins n (loop ins i es s) := by
  induction es generalizing i s with
  | nil =>
    show s.out <+: finish isTuple ins n s
    rw [finish_eq]
    split <;> exact List.prefix_append ..
  | cons e rest ih =>
    refine List.IsPrefix.trans ?_ (ih (i + 1) (step ins i e s))
    cases hk : e.keep
    · rw [step_del hk]
      exact List.prefix_refl _
    · rw [step_keep hk, List.append_assoc]
      exact List.prefix_append ..

theorem getD_isEmpty_of_all {ins : List (List Nat)} (hi : ins.all (·.isEmpty) = true) (i : Nat) :
    ins.getD i [] = [] := by
  rw [List.getD_eq_getElem?_getD]
  cases h : ins[i]? with
  | none => rfl
  | some l => simpa using List.all_eq_true.mp hi l (List.mem_of_getElem? h)

end ISnap.SeqEdit
