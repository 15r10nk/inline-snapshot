import ISnap.Props.C06
/-
  What a sequence of comparisons of one kind leaves in a site (`Leaf.runOps`, defined in Props/C06.lean): the
  running extreme for `<=` / `>=`, the de-duplicated union for `in`.  The end state in closed form (`runOps_mm`,
  `runOps_coll`) needs no law about the values; a total order, or an equivalence, is needed only to say what the
  extreme, or the union, is.
-/
namespace ISnap
variable {V : Type}

/-- `<=` as the code needs it for bounds (scope of C05/C06: totally ordered values) -/
structure TotalLe (o : Ops V) : Prop where
  refl  : ∀ a, o.le a a = true
  trans : ∀ a b c, o.le a b = true → o.le b c = true → o.le a c = true
  total : ∀ a b, o.le a b = true ∨ o.le b a = true

theorem cmpK_totalLe {o : Ops V} (h : TotalLe o) (k : Kind) : TotalLe { o with le := cmpK o k } := by
  cases k <;> first
    | exact ⟨h.refl, fun a b c h1 h2 => h.trans c b a h2 h1, fun a b => h.total b a⟩
    | exact h

theorem cmpK_least {o : Ops V} (tot : TotalLe o) (k : Kind) {n : V} {xs : List V} (hmem : n ∈ xs)
    (hall : ∀ x ∈ xs, cmpK o k n x = true) (w : V) :
    cmpK o k w n = xs.all (cmpK o k w ·) ∧ cmpK o k n w = xs.any (cmpK o k · w) := by
  refine ⟨Bool.eq_iff_iff.2 ?_, Bool.eq_iff_iff.2 ?_⟩
  · rw [List.all_eq_true]
    exact ⟨fun h x hx => (cmpK_totalLe tot k).trans _ _ _ h (hall x hx), fun h => h n hmem⟩
  · rw [List.any_eq_true]
    exact ⟨fun h => ⟨n, hmem, h⟩, fun ⟨x, hx, h⟩ => (cmpK_totalLe tot k).trans _ _ _ (hall x hx) h⟩

def isMM (op : Op) : Prop := op = .ge ∨ op = .le

def extreme (o : Ops V) (k : Kind) (m : V) (xs : List V) : V :=
  xs.foldl (fun m y => mmNext o k (some m) y) m

theorem Leaf.after_mm {o : Ops V} {op : Op} (hop : isMM op) (s : Leaf V) (x : V) :
    s.after o op x = { s with kind := op.kind, new := some (mmNext o op.kind s.new x) } := by
  rcases hop with rfl | rfl <;> rfl

theorem runOps_mm (o : Ops V) (f : Flags) (op : Op) (hop : isMM op) (x : V) (xs : List V) (s : Leaf V)
    (hk : s.kind = .undecided ∨ s.kind = op.kind) (hfit : opFits s.old op) :
    (s.runOps o f op (x :: xs)).1 =
      { s with kind := op.kind, new := some (extreme o op.kind (mmNext o op.kind s.new x) xs) } := by
  induction xs generalizing s x with
  | nil => exact (Leaf.step_st_of_fits hk hfit).trans (Leaf.after_mm hop s x)
  | cons y ys ih =>
    show ((s.step o f op x true).st.runOps o f op (y :: ys)).1 = _
    rw [Leaf.step_st_of_fits hk hfit, Leaf.after_mm hop]
    exact ih y _ (.inr rfl) hfit

/-- an `==` site records what the first comparison leaves; later comparisons do not change the state -/
theorem runOps_eq (o : Ops V) (f : Flags) (x : V) (xs : List V) (s : Leaf V)
    (hk : s.kind = .undecided ∨ s.kind = .eq) (hfit : opFits s.old .eq) :
    (s.runOps o f .eq (x :: xs)).1 = { s with kind := .eq, new := some (eqNext o s.old s.new x) } := by
  induction xs generalizing s x with
  | nil => exact Leaf.step_st_of_fits hk hfit
  | cons y ys ih =>
    show ((s.step o f .eq x true).st.runOps o f .eq (y :: ys)).1 = _
    rw [Leaf.step_st_of_fits hk hfit]
    exact ih y _ (.inr rfl) hfit

theorem extreme_spec {o : Ops V} (tot : TotalLe o) (k : Kind) (xs : List V) (m : V) :
    extreme o k m xs ∈ m :: xs ∧ ∀ y ∈ m :: xs, cmpK o k (extreme o k m xs) y = true := by
  have ord := cmpK_totalLe tot k
  rw [List.mem_cons, List.forall_mem_cons]
  induction xs generalizing m with
  | nil => exact ⟨.inl rfl, ord.refl m, nofun⟩
  | cons x xs ih =>
    -- one step keeps `m` or takes `x`, and what it keeps bounds the other
    rw [show extreme o k m (x :: xs) = extreme o k (if cmpK o k m x then m else x) xs from rfl,
      List.forall_mem_cons]
    by_cases h : cmpK o k m x = true
    · obtain ⟨hmem, hm, hall⟩ := ih m
      rw [if_pos h]
      exact ⟨hmem.imp_right (List.mem_cons_of_mem _), hm, ord.trans _ _ _ hm h, hall⟩
    · obtain ⟨hmem, hx, hall⟩ := ih x
      rw [if_neg h]
      exact ⟨.inr (List.mem_cons.2 hmem),
        ord.trans _ _ _ hx ((ord.total m x).resolve_left h), hx, hall⟩

/-- `==` as the code needs it for membership tests -/
structure EqvLaws (o : Ops V) : Prop where
  refl  : ∀ a, o.eqv a a = true
  symm  : ∀ a b, o.eqv a b = true → o.eqv b a = true
  trans : ∀ a b c, o.eqv a b = true → o.eqv b c = true → o.eqv a c = true

theorem memBy_append (eqv : V → V → Bool) (y : V) (a b : List V) :
    memBy eqv y (a ++ b) = (memBy eqv y a || memBy eqv y b) := by
  simp [memBy, List.any_append]

theorem memBy_congr {o : Ops V} (h : EqvLaws o) (x y : V) (l : List V) (hxy : o.eqv x y = true) :
    memBy o.eqv x l = memBy o.eqv y l := by
  have : ∀ a, o.eqv x a = o.eqv y a := fun a =>
    Bool.eq_iff_iff.2 ⟨h.trans y x a (h.symm x y hxy), h.trans x y a hxy⟩
  simp only [memBy, this]

theorem mem_collNext {o : Ops V} (h : EqvLaws o) (l : List V) (x y : V) :
    memBy o.eqv y (collNext o (some l) x) = (memBy o.eqv y l || o.eqv y x) := by
  show memBy o.eqv y (if memBy o.eqv x l then l else l ++ [x]) = _
  by_cases hm : memBy o.eqv x l = true
  · -- `x` is there already, and so is whatever equals `x`
    rw [if_pos hm]
    cases hyx : o.eqv y x
    · rw [Bool.or_false]
    · rw [memBy_congr h y x l hyx, hm]; rfl
  · rw [if_neg hm, memBy_append]
    simp [memBy]

/-- the members `in` has accumulated after the tests `xs` on top of `l` -/
def gathered (o : Ops V) (l : List V) (xs : List V) : List V :=
  xs.foldl (fun l y => collNext o (some l) y) l

theorem runOps_coll (o : Ops V) (f : Flags) (x : V) (xs : List V) (s : Leaf V)
    (hk : s.kind = .undecided ∨ s.kind = .coll) (hfit : opFits s.old .isin) :
    (s.runOps o f .isin (x :: xs)).1 =
      { s with kind := .coll, newC := some (gathered o (collNext o s.newC x) xs) } := by
  induction xs generalizing s x with
  | nil => exact Leaf.step_st_of_fits hk hfit
  | cons y ys ih =>
    show ((s.step o f .isin x true).st.runOps o f .isin (y :: ys)).1 = _
    rw [Leaf.step_st_of_fits hk hfit]
    exact ih y _ (.inr rfl) hfit

theorem mem_gathered {o : Ops V} (h : EqvLaws o) (xs : List V) (l : List V) (y : V) :
    memBy o.eqv y (gathered o l xs) = (memBy o.eqv y l || memBy o.eqv y xs) := by
  induction xs generalizing l with
  | nil => simp [gathered, memBy]
  | cons x xs ih =>
    show memBy o.eqv y (gathered o (collNext o (some l) x) xs) = _
    rw [ih, mem_collNext h]
    simp [memBy, Bool.or_assoc]

theorem mem_gathered_fresh {o : Ops V} (h : EqvLaws o) (x : V) (xs : List V) (y : V) :
    memBy o.eqv y (gathered o (collNext o none x) xs) = memBy o.eqv y (x :: xs) := by
  rw [mem_gathered h]; simp [memBy, collNext]

/-- what a Min/Max site that has recorded `n` reports -/
def mmFlags (o : Ops V) (k : Kind) (v : V) (c : Bool) (n : V) : Flags :=
  match minMaxFlag o k v c n with | some g => Flags.single g | none => Flags.empty

theorem mm_cats_final (o : Ops V) (k : Kind) (hk : k = .mn ∨ k = .mx) (v : V) (c : Bool) (n : V) (ap : Flags) :
    ({ old := some (.leaf v c), kind := k, new := some n } : Leaf V).cats o = some (mmFlags o k v c n) ∧
    ({ old := some (.leaf v c), kind := k, new := some n } : Leaf V).final o ap =
      (match minMaxFlag o k v c n with
       | some g => if ap.has g then .one n else .one v
       | none => .one v) := by
  rcases hk with rfl | rfl <;> exact ⟨rfl, rfl⟩

theorem mmFlags_eq (o : Ops V) (k v c n) :
    mmFlags o k v c n =
      { fix := !cmpK o k v n, trim := cmpK o k v n && !cmpK o k n v,
        update := cmpK o k v n && cmpK o k n v && !(c && o.same v n) } := by
  unfold mmFlags minMaxFlag
  cases cmpK o k v n <;> cases cmpK o k n v <;> cases c && o.same v n <;> rfl

theorem Leaf.cats_create (o : Ops V) (s : Leaf V) (fl : Flags) (hc : s.cats o = some fl) :
    fl.create = (s.old.isNone && (s.new.isSome || s.newC.isSome)) := by
  -- (`fun_cases Leaf.cats` generates auxiliary match lemmas that must not be generated again in a module imported
  -- beside this one: Props/C18 uses it too, and gets them from here)
  revert hc
  fun_cases Leaf.cats o s <;> intro hc <;> cases hc
  -- for a missing argument this is the test `cats` makes; for an existing one what `cats` builds is empty, a
  -- single fix or update, `mmFlags`, or the three fields of a collection
  all_goals simp only [*, Option.isNone_some, Option.isNone_none, Bool.false_and, Bool.true_and]
  -- case1: no argument; case6, case8: Min and Max with a recorded value
  case case1 => cases s.new.isSome || s.newC.isSome <;> rfl
  case case6 | case8 => exact congrArg Flags.create (mmFlags_eq ..)
  all_goals (repeat' split) <;> rfl

theorem minMaxFlag_eq_some (o : Ops V) (k v c n) (g : Cat) :
    minMaxFlag o k v c n = some g ↔
      match g with
      | .create => False
      | .fix => cmpK o k v n = false
      | .trim => cmpK o k v n = true ∧ cmpK o k n v = false
      | .update => cmpK o k v n = true ∧ cmpK o k n v = true ∧ (c && o.same v n) = false := by
  unfold minMaxFlag
  cases g <;> cases cmpK o k v n <;> cases cmpK o k n v <;> cases c && o.same v n <;> simp

end ISnap
