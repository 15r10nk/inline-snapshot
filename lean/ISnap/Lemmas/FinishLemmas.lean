import ISnap.Model.Finish
/-
  `exec` seen from one test file (`stepC`: what a step does to the content of file `f`) and from the
  store (`foldl_store`), so that crash points of a step list can be read without the disk.
-/
namespace ISnap.Finish
open ISnap.External List

/-- the effect of one step on the content of file `f` -/
def stepC (f : Nat) (c : Content) (s : Step) : Content :=
  if s = .put f then .new else if s = .truncate f then .empty else c

theorem contentOf_setFile (files : List (Nat × Content)) (st st' : Store) (g f : Nat) (c : Content) :
    contentOf ⟨setFile g c files, st'⟩ f =
      (contentOf ⟨files, st⟩ f).map (fun c' => if g = f then c else c') := by
  unfold contentOf
  induction files with
  | nil => rfl
  | cons p rest ih =>
    obtain ⟨h, c'⟩ := p
    by_cases hg : h = g
    · subst hg
      by_cases hf : h = f
      · subst hf; simp [setFile]
      · simp [setFile, hf, Function.comp_def]
    · by_cases hf : h = f
      · subst hf; simp [setFile, hg, Ne.symm hg]
      · simpa [setFile, hg, hf] using ih

theorem contentOf_exec (d : Disk) (s : Step) (f : Nat) :
    contentOf (exec d s) f = (contentOf d f).map (fun c => stepC f c s) := by
  cases s with
  | compute g => simp [exec, stepC]
  | persist r => simp [exec, stepC, contentOf, Function.comp_def]
  | truncate g => simpa [stepC, exec] using contentOf_setFile d.files d.store d.store g f .empty
  | put g => simpa [stepC, exec] using contentOf_setFile d.files d.store d.store g f .new

theorem contentOf_crashAt (d : Disk) (steps : List Step) (k : Nat) (f : Nat) :
    contentOf (crashAt d steps k) f = (contentOf d f).map (fun c => (steps.take k).foldl (stepC f) c) := by
  unfold crashAt
  generalize steps.take k = l
  induction l generalizing d with
  | nil => simp
  | cons s rest ih =>
    rw [foldl_cons, ih, contentOf_exec]
    cases contentOf d f <;> rfl

theorem stepC_cases (f : Nat) (c : Content) (s : Step) :
    (s = .put f ∧ stepC f c s = .new) ∨ (s = .truncate f ∧ stepC f c s = .empty) ∨
      (s ≠ .put f ∧ s ≠ .truncate f ∧ stepC f c s = c) := by
  unfold stepC
  by_cases hp : s = .put f
  · exact Or.inl ⟨hp, if_pos hp⟩
  · by_cases ht : s = .truncate f
    · exact Or.inr (Or.inl ⟨ht, by rw [if_neg hp, if_pos ht]⟩)
    · exact Or.inr (Or.inr ⟨hp, ht, by rw [if_neg hp, if_neg ht]⟩)

/-- the last step that writes `f` decides -/
theorem foldl_stepC_cases (f : Nat) (steps : List Step) (c : Content) :
    (steps.foldl (stepC f) c = .new ∧ Step.put f ∈ steps) ∨
      (steps.foldl (stepC f) c = .empty ∧ Step.truncate f ∈ steps) ∨
      (steps.foldl (stepC f) c = c ∧ Step.truncate f ∉ steps ∧ Step.put f ∉ steps) := by
  induction steps generalizing c with
  | nil => exact Or.inr (Or.inr ⟨rfl, not_mem_nil, not_mem_nil⟩)
  | cons s rest ih =>
    rcases ih (stepC f c s) with ⟨h, hm⟩ | ⟨h, hm⟩ | ⟨h, ht, hp⟩
    · exact Or.inl ⟨h, mem_cons_of_mem _ hm⟩
    · exact Or.inr (Or.inl ⟨h, mem_cons_of_mem _ hm⟩)
    · rw [foldl_cons, h]
      rcases stepC_cases f c s with ⟨hs, h'⟩ | ⟨hs, h'⟩ | ⟨hsp, hst, h'⟩
      · exact Or.inl ⟨h', hs ▸ mem_cons_self⟩
      · exact Or.inr (Or.inl ⟨h', hs ▸ mem_cons_self⟩)
      · exact Or.inr (Or.inr ⟨h', fun hm => (mem_cons.1 hm).elim (fun e => hst e.symm) ht,
          fun hm => (mem_cons.1 hm).elim (fun e => hsp e.symm) hp⟩)

/-- "`y` directly follows every `x`" survives a prefix that holds no `x` -/
theorem next_append {α : Type} {a b : List α} {x y : α} (ha : x ∉ a)
    (hb : ∀ i, b[i]? = some x → b[i + 1]? = some y) (i : Nat) (h : (a ++ b)[i]? = some x) :
    (a ++ b)[i + 1]? = some y := by
  induction a generalizing i with
  | nil => exact hb i h
  | cons s a ih =>
    cases i with
    | zero => exact absurd (Option.some.inj h ▸ mem_cons_self) ha
    | succ i => exact ih (fun hm => ha (mem_cons_of_mem _ hm)) i h

theorem take_stepC_empty {l : List Step} {f : Nat}
    (hl : ∀ i, l[i]? = some (Step.truncate f) → l[i + 1]? = some (Step.put f)) (k : Nat)
    (h : (l.take k).foldl (stepC f) .old = .empty) : ∃ i, k = i + 1 ∧ l[i]? = some (Step.truncate f) := by
  induction k with
  | zero => cases h
  | succ k ih =>
    refine ⟨k, rfl, ?_⟩
    -- had the file been empty one step earlier, step `k` would be its `put`
    have hprev : (l.take k).foldl (stepC f) .old = .empty → l[k]? = some (Step.put f) := fun h => by
      obtain ⟨i, rfl, hi⟩ := ih h
      exact hl i hi
    rw [take_add_one, foldl_append] at h
    cases hk : l[k]? with
    | none => rw [hk] at h hprev; cases hprev h
    | some s =>
      rw [hk] at h hprev
      rcases stepC_cases f ((l.take k).foldl (stepC f) .old) s with ⟨_, h'⟩ | ⟨hs, _⟩ | ⟨hp, _, h'⟩
      · rw [Option.toList_some, foldl_cons, foldl_nil, h'] at h; cases h
      · rw [hs]
      · rw [Option.toList_some, foldl_cons, foldl_nil, h'] at h
        exact absurd (Option.some.inj (hprev h)) hp

theorem foldl_store (steps : List Step) (d : Disk) :
    (steps.foldl exec d).store =
      persistAll d.store (steps.filterMap fun | .persist r => some r | _ => none) := by
  induction steps generalizing d with
  | nil => rfl
  | cons st rest ih => rw [foldl_cons, ih]; cases st <;> rfl

end ISnap.Finish
