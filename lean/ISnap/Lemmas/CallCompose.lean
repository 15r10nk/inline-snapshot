import ISnap.Props.C11c
/-
  For `ISnap.Props.C09b`: what two runs make of one old keyword (`oldOne_compose`), and the woven keyword
  list without indices (`call_kw_keyed`).  The new fields written in front of a keyword are read off the
  field list by the keyword's name (`before`); they do not depend on which keywords of default-valued
  fields are still there (`before_congr`), which is what a run of `fix` after a run of `update` needs.
-/
namespace ISnap.CallAssign
open ISnap ISnap.Assign List

theorem oldOne_compose (F₁ F₂ : Flags) (fields : List Field) (p : Nat × Expr)
    (hp : Managed p.2 ∧ WfExpr p.2) (hfv : ∀ f ∈ fields, ValOk f.2.1 ∧ WfVal f.2.1) :
    (oldOne F₁ fields p).bind (oldOne F₂ fields) = oldOne (F₁.union F₂) fields p := by
  rcases h : lookupF p.1 fields with _ | ⟨v, _ | _⟩
  · -- no such field: deleted by `fix`
    cases h1 : F₁.fix <;> cases h2 : F₂.fix <;> simp [oldOne, h, h1, h2]
  · -- matched: the adapter of the value (`Assign.compose_gen`), under the same name
    have hv := hfv _ (lookupF_mem h)
    rw [oldOne_matched h, oldOne_matched h, Option.bind_some, oldOne_matched (p := (p.1, (assign F₁ p.2 v).expr)) h,
      compose_gen F₁ F₂ p.2 (ge_of hp.1 hp.2) v (gv_of hv.1 hv.2)]
  · -- the field holds its default: deleted by the category that depends on the (unchanged) old value
    cases h1 : F₁.has (if pyEq (eval p.2) v then Cat.update else Cat.fix) <;>
      cases h2 : F₂.has (if pyEq (eval p.2) v then Cat.update else Cat.fix) <;>
      simp [oldOne, h, h1, h2]

/-- the new fields that are written in front of the keyword named `t` (`none`: behind the last keyword):
    the non-default fields without keyword (`S` tells which names have one) that follow the previous field
    with a keyword -/
def before (S : Nat → Bool) (t : Option Nat) : List Field → List (Nat × Val) → List (Nat × Val)
  | [], pending => if t = none then pending else []
  | (name, v, d) :: rest, pending =>
    if d then before S t rest pending
    else if S name then (if t = some name then pending else []) ++ before S t rest []
    else before S t rest (pending ++ [(name, v)])

/-- `c` is any test on positions that singles out the position of `t`: used with `· == idxOf n` for the
    group in front of a keyword and with `· ≥ length` for what `CallAssign.weave` puts behind the last one -/
theorem inserts_sel {names : List Nat} {off : Nat} {c : Nat → Bool} {t : Option Nat}
    (h₁ : ∀ n ∈ names, c (off + names.idxOf n) = decide (t = some n))
    (h₂ : c (off + names.length) = decide (t = none)) : ∀ (fields : List Field) (pending : List (Nat × Val)),
    ((inserts names fields off pending).filter (fun p => c p.1)).flatMap insG =
      (before (fun n => names.contains n) t fields pending).map (fun kv => (kv.1, canon kv.2))
  | [], pending => by
    unfold inserts before
    rw [filter_cons, h₂]
    by_cases ht : t = none <;> simp [ht, insG]
  | (name, v, d) :: rest, pending => by
    unfold inserts before
    by_cases hd : d = true
    · rw [if_pos hd, if_pos hd]; exact inserts_sel h₁ h₂ rest pending
    rw [if_neg hd, if_neg hd]
    by_cases hc : names.contains name = true
    · rw [if_pos hc, if_pos hc, filter_cons, h₁ name (by simpa using hc)]
      by_cases ht : t = some name <;> simp [ht, insG, inserts_sel h₁ h₂ rest []]
    · rw [if_neg hc, if_neg hc]; exact inserts_sel h₁ h₂ rest _

theorem idxOf_inj' {l : List Nat} {a b : Nat} (ha : a ∈ l) (h : l.idxOf a = l.idxOf b) : a = b := by
  have h1 : l.idxOf a < l.length := idxOf_lt_length_iff.2 ha
  have h2 : l.idxOf b < l.length := h ▸ h1
  rw [← getElem_idxOf h1, ← getElem_idxOf h2]
  simp [h]

theorem before_congr {S S' : Nat → Bool} (t : Option Nat) : ∀ (fields : List Field) (pending : List (Nat × Val)),
    (∀ f ∈ fields, f.2.2 = false → S f.1 = S' f.1) → before S t fields pending = before S' t fields pending
  | [], _, _ => rfl
  | (name, v, d) :: rest, pending, h => by
    have hr : ∀ f ∈ rest, f.2.2 = false → S f.1 = S' f.1 := fun f hf => h f (mem_cons_of_mem _ hf)
    unfold before
    by_cases hd : d = true
    · rw [if_pos hd, if_pos hd]; exact before_congr t rest _ hr
    · rw [if_neg hd, if_neg hd, ← h _ mem_cons_self (by simpa using hd), before_congr t rest _ hr,
        before_congr t rest _ hr]

theorem before_nil {S : Nat → Bool} {n : Nat} : ∀ (fields : List Field) (pending : List (Nat × Val)),
    (∀ v, (n, v, false) ∉ fields) → before S (some n) fields pending = []
  | [], _, _ => rfl
  | (name, v, d) :: rest, pending, h => by
    have hr : ∀ v, (n, v, false) ∉ rest := fun v hv => h v (mem_cons_of_mem _ hv)
    unfold before
    by_cases hd : d = true
    · rw [if_pos hd]; exact before_nil rest _ hr
    · have hne : some n ≠ some name := by
        rintro ⟨⟩
        exact h v (by rw [Bool.not_eq_true] at hd; rw [hd]; exact mem_cons_self)
      rw [if_neg hd, if_neg hne, before_nil rest _ hr, before_nil rest _ hr]
      split <;> rfl

/-- the keywords written in front of keyword `t` of the call -/
def grp (kw : List (Nat × Expr)) (fields : List Field) (t : Option Nat) : List (Nat × Expr) :=
  (before (fun n => (kw.map (·.1)).contains n) t fields []).map (fun kv => (kv.1, canon kv.2))

theorem call_kw_keyed (F : Flags) (kw : List (Nat × Expr)) (fields : List Field)
    (hF : F.fix = true) (hkn : (kw.map (·.1)).Nodup) :
    (assignCall F kw fields).kw =
      kw.flatMap (fun p => grp kw fields (some p.1) ++ (oldOne F fields p).toList) ++ grp kw fields none := by
  rw [call_kw_fix F kw fields hF, weave_eq]
  refine (Weave.weaveG_map (oldOne F fields) (fun p => grp kw fields (some p.1)) kw 0
    fun j hj => ?_).trans (congrArg _ ?_)
  · -- the names are pairwise different: position `j` is the index of the name of the `j`-th keyword
    have hidx := hkn.idxOf_getElem j (by rwa [length_map])
    rw [getElem_map] at hidx
    have hn : kw[j].1 ∈ kw.map (·.1) := mem_map.2 ⟨_, getElem_mem hj, rfl⟩
    have hlt := idxOf_lt_length_iff.2 hn
    conv => lhs; rw [← hidx]
    refine inserts_sel (off := 0) (c := fun i => i == 0 + (kw.map (·.1)).idxOf kw[j].1) (fun n hn' => ?_)
      (by simp at hlt ⊢; omega) fields []
    rw [Bool.eq_iff_iff, beq_iff_eq, decide_eq_true_eq, Option.some.injEq, Nat.add_left_cancel_iff]
    exact ⟨fun h => (idxOf_inj' hn' h).symm, fun h => by rw [h]⟩
  · refine inserts_sel (off := 0) (c := fun i => decide (i ≥ 0 + kw.length)) (fun n hn => ?_) (by simp) fields []
    have := idxOf_lt_length_iff.2 hn
    rw [length_map] at this
    simp; omega

theorem flatMap_filterMap' {α β : Type} (g : α → Option α) (h h' : α → List β) (l : List α)
    (hh : ∀ p ∈ l, (match g p with | none => [] | some q => h q) = h' p) :
    (l.filterMap g).flatMap h = l.flatMap h' := by
  induction l with
  | nil => rfl
  | cons a l ih =>
    have ha := hh a mem_cons_self
    have ih' := ih (fun p hp => hh p (mem_cons_of_mem _ hp))
    rw [filterMap_cons, flatMap_cons, ← ha]
    cases hg : g a with
    | none => simpa using ih'
    | some q => simp [ih']

theorem insG_snd (p : Nat × List (Nat × Val)) (i : Nat) : insG (i, p.2) = insG p := rfl

end ISnap.CallAssign
