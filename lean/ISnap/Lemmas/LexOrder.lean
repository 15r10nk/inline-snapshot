/-
  Boolean comparison functions as `List.mergeSort` takes them, and the one way the models build them:
  compare a key, and where the keys agree compare by the next order (`TotalPreorder.lex`).
-/
namespace ISnap

/-- what `List.mergeSort` needs of its comparison in order to sort -/
structure TotalPreorder {α : Type} (le : α → α → Bool) : Prop where
  total : ∀ a b, (le a b || le b a) = true
  trans : ∀ a b c, le a b = true → le b c = true → le a c = true

/-- `r` orders distinct keys linearly. Nothing is asked of `r x x`, so that `<` and `≤` both qualify. -/
structure LinearKey {κ : Type} (r : κ → κ → Bool) : Prop where
  total : ∀ x y, x ≠ y → r x y = true ∨ r y x = true
  trans : ∀ x y z, r x y = true → r y z = true → r x z = true
  antisymm : ∀ x y, r x y = true → r y x = true → x = y

namespace TotalPreorder
variable {α β κ : Type}

theorem pairwise_mergeSort {le : α → α → Bool} (h : TotalPreorder le) (l : List α) :
    (l.mergeSort le).Pairwise (fun a b => le a b = true) :=
  List.pairwise_mergeSort h.trans h.total l

theorem comap {le : β → β → Bool} (h : TotalPreorder le) (f : α → β) :
    TotalPreorder (fun a b => le (f a) (f b)) :=
  ⟨fun _ _ => h.total _ _, fun _ _ _ => h.trans _ _ _⟩

theorem lex [DecidableEq κ] {r : κ → κ → Bool} {le : α → α → Bool} (k : α → κ) (hr : LinearKey r)
    (hle : TotalPreorder le) : TotalPreorder (fun a b => if k a ≠ k b then r (k a) (k b) else le a b) where
  total a b := by
    by_cases h : k a = k b
    · simpa [h] using hle.total a b
    · simpa [h, Ne.symm h] using hr.total _ _ h
  trans a b c := by
    by_cases hab : k a = k b <;> by_cases hbc : k b = k c
    · simpa [hab, hbc] using hle.trans a b c
    · simp only [hab, hbc, ne_eq, not_true_eq_false, not_false_eq_true, if_true, if_false]
      exact fun _ h => h
    · simp only [hab, ← hbc, ne_eq, not_true_eq_false, not_false_eq_true, if_true, if_false]
      exact fun h _ => h
    · simp only [hab, hbc, ne_eq, not_false_eq_true, if_true]
      intro h1 h2
      split
      · exact hr.trans _ _ _ h1 h2
      · next hac =>
        -- the first and the last key agree and the middle one does not: excluded by `antisymm`
        rw [Classical.not_not] at hac
        exact absurd (hr.antisymm _ _ h1 (hac ▸ h2)) hab

end TotalPreorder

theorem linearKey_lt : LinearKey (fun x y : Nat => decide (x < y)) := by
  constructor <;> simp only [decide_eq_true_eq] <;> omega

theorem totalPreorder_natLe : TotalPreorder (fun x y : Nat => decide (x ≤ y)) := by
  constructor <;> simp only [Bool.or_eq_true, decide_eq_true_eq] <;> omega

/- The models carry their own copies of the comparison of code point lists; each decides the lexicographic `≤`
   core Lean puts on `List Nat`, and has its laws from there. -/
theorem linearKey_listLe {f : List Nat → List Nat → Bool} (hf : ∀ a b, f a b = true ↔ a ≤ b) :
    LinearKey f where
  total a b _ := by simp only [hf]; exact List.le_total a b
  trans _ _ _ := by simp only [hf]; exact List.le_trans
  antisymm _ _ := by simp only [hf]; exact List.le_antisymm

theorem totalPreorder_listLe {f : List Nat → List Nat → Bool} (hf : ∀ a b, f a b = true ↔ a ≤ b) :
    TotalPreorder f :=
  ⟨fun a b => by simpa [hf] using List.le_total a b, (linearKey_listLe hf).trans⟩

theorem mergeSort_pair {α} (le : α → α → Bool) (a b : α) :
    [a, b].mergeSort le = if le a b then [a, b] else [b, a] := by
  simp [List.mergeSort, List.merge]

end ISnap
