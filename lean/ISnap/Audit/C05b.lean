import ISnap.Props.C05b
#print axioms ISnap.single_cats
#print axioms ISnap.single_fix_iff
#print axioms ISnap.single_trim_only_if_holds
#print axioms ISnap.single_incomparable_is_fix
#print axioms ISnap.single_fails_exactly_fix
