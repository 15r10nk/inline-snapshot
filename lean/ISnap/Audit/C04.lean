import ISnap.Props.C04
#print axioms ISnap.Session.applied_subset_approved
#print axioms ISnap.Session.flags_resolution
#print axioms ISnap.Session.nothing_approved_nothing_written
#print axioms ISnap.Session.applied_exact
#print axioms ISnap.Session.illegal_combinations_error
#print axioms ISnap.Session.xfail_inactive
#print axioms ISnap.Session.configure_eq
#print axioms ISnap.Session.applied_has
