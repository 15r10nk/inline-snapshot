import ISnap.Props.C15
#print axioms ISnap.Finish.plan_eq
#print axioms ISnap.Finish.computePhase_no_write
#print axioms ISnap.Finish.writePhase_all_write
#print axioms ISnap.Finish.persist_mem_computePhase
#print axioms ISnap.Finish.write_mem_writePhase
#print axioms ISnap.Finish.not_mem_computePhase
#print axioms ISnap.Finish.persist_before_write
#print axioms ISnap.Finish.persist_index_lt_write
#print axioms ISnap.Finish.contentOf_exec
#print axioms ISnap.Finish.contentOf_crashAt
#print axioms ISnap.Finish.Fresh.contentOf
#print axioms ISnap.Finish.writePhase_truncate_next
#print axioms ISnap.Finish.plan_truncate_next
#print axioms ISnap.Finish.crash_content
#print axioms ISnap.Finish.crash_safe_partial
#print axioms ISnap.Finish.crash_unsafe_between_truncate_put
#print axioms ISnap.Finish.exec_files_of_not_write
#print axioms ISnap.Finish.compute_phase_writes_nothing
#print axioms ISnap.Finish.computePhase_length
#print axioms ISnap.Finish.compute_phase_all_old
#print axioms ISnap.Finish.crash_new_after_computePhase
#print axioms ISnap.Finish.crash_no_dangling
#print axioms ISnap.Finish.foldl_store
#print axioms ISnap.Finish.crash_no_dangling_store
#print axioms ISnap.Finish.formatter_failure_degrades
#print axioms ISnap.Finish.contentOf_setFile
#print axioms ISnap.Finish.stepC_cases
#print axioms ISnap.Finish.foldl_stepC_cases
#print axioms ISnap.Finish.take_stepC_empty
#print axioms ISnap.External.persistAll_persists
