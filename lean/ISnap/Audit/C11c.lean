import ISnap.Props.C11c
#print axioms ISnap.CallAssign.call_kw_nofix
#print axioms ISnap.CallAssign.call_kw_fix
#print axioms ISnap.CallAssign.call_kw_perm
#print axioms ISnap.CallAssign.mem_call_iff
#print axioms ISnap.CallAssign.call_matched_by_key
#print axioms ISnap.CallAssign.call_kw_origin
#print axioms ISnap.CallAssign.call_nothing_approved
#print axioms ISnap.CallAssign.call_cats
#print axioms ISnap.CallAssign.oldOneCats_indep
#print axioms ISnap.CallAssign.call_cats_flags_indep
#print axioms ISnap.CallAssign.call_merged_flags_indep
#print axioms ISnap.CallAssign.union_fix
#print axioms ISnap.CallAssign.union_update
#print axioms ISnap.CallAssign.call_no_create_trim
#print axioms ISnap.CallAssign.call_kept_keyword_text
#print axioms ISnap.CallAssign.call_names_nodup
#print axioms ISnap.CallAssign.call_kw_noins
#print axioms ISnap.CallAssign.call_equal_kept
#print axioms ISnap.CallAssign.call_equal_no_fix
#print axioms ISnap.CallAssign.call_unmanaged_untouched
#print axioms ISnap.CallAssign.call_fix_repairs_exists
#print axioms ISnap.CallAssign.call_fix_repairs
#print axioms ISnap.CallAssign.call_fix_update_no_stale
#print axioms ISnap.CallAssign.call_fix_stale_unchanged
