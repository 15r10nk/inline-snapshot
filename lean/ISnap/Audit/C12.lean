import ISnap.Props.C12
#print axioms ISnap.StrLit.evalLit_pyRepr
#print axioms ISnap.StrLit.evalBytes_bytesRepr
#print axioms ISnap.StrLit.tripleQuote_isSome
#print axioms ISnap.StrLit.tripleQuote_isSome_iff
#print axioms ISnap.StrLit.tripleQuote_none_example
#print axioms ISnap.StrLit.evalLit_tripleQuote
#print axioms ISnap.StrLit.valueToLiteral_sound
#print axioms ISnap.StrLit.valueToLiteral_roundtrip
#print axioms ISnap.StrLit.valueToLiteral_roundtrip_repr
#print axioms ISnap.StrLit.pyRepr_no_newline
#print axioms ISnap.StrLit.readHex_two
#print axioms ISnap.StrLit.readHex_four
#print axioms ISnap.StrLit.readHex_eight
#print axioms ISnap.StrLit.valueToLiteral_isSome_iff
