import ISnap.Props.C18
#print axioms ISnap.cats_ne_none_iff
#print axioms ISnap.cats_eq_none_iff
#print axioms ISnap.ok_undecided
#print axioms ISnap.cats_total_undecided
#print axioms ISnap.ok_step
#print axioms ISnap.step_kind_ne_dict
#print axioms ISnap.ok_runAny
#print axioms ISnap.finish_total_leaf
#print axioms ISnap.ok_runOps
#print axioms ISnap.cats_total_fresh
#print axioms ISnap.failed_clone_now_total
#print axioms ISnap.site_ok_ofOld
#print axioms ISnap.lookupChild_mem
#print axioms ISnap.mem_setChild
#print axioms ISnap.getItem_ok
#print axioms ISnap.site_ok_step
#print axioms ISnap.site_ok_touch
#print axioms ISnap.site_cats_ne_none
#print axioms ISnap.site_ok_runActs
#print axioms ISnap.finish_total_site
#print axioms ISnap.mem_setSite
#print axioms ISnap.table_ok_set
#print axioms ISnap.table_lookup_ok
#print axioms ISnap.table_ok_snap
#print axioms ISnap.table_ok_snaps
#print axioms ISnap.table_ok_step
#print axioms ISnap.table_ok_run
#print axioms ISnap.finish_total_table
#print axioms ISnap.replacements_disjoint_means_total
