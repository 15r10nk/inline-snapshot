import ISnap.Props.C13
#print axioms ISnap.External.I1_step
#print axioms ISnap.External.I1_name_is_hash
#print axioms ISnap.External.every_entry_was_outsourced
#print axioms ISnap.External.read_returns_outsourced
#print axioms ISnap.External.read_hash_has_prefix
#print axioms ISnap.External.unique_names_step
#print axioms ISnap.External.unique_names
#print axioms ISnap.External.I3_new_files_die_at_start
#print axioms ISnap.External.I3_history
#print axioms ISnap.External.new_since_last_start
#print axioms ISnap.External.persisted_step
#print axioms ISnap.External.I2_persisted_only_if_referenced
#print axioms ISnap.External.I2_finish_event
#print axioms ISnap.External.I4_removed_only_by_trim
#print axioms ISnap.External.trim_keeps_only_referenced
#print axioms ISnap.External.persisted_survives
#print axioms ISnap.External.no_shadow_step
#print axioms ISnap.External.no_shadow
#print axioms ISnap.External.lookup_ambiguous_or_missing_raises
#print axioms ISnap.External.read_unique
#print axioms ISnap.External.lookup_none_of_not_unique
#print axioms ISnap.External.read_none_of_not_unique
#print axioms ISnap.External.lookup_isSome_iff
#print axioms ISnap.External.referenced_is_persisted
#print axioms ISnap.External.referenced_not_persisted_on_collision
#print axioms ISnap.External.outsource_idempotent
#print axioms ISnap.External.prune_idempotent
#print axioms ISnap.External.start_idempotent
#print axioms ISnap.External.step_inv
#print axioms ISnap.External.run_inv
#print axioms ISnap.External.mem_run
#print axioms ISnap.External.persisted_mem_step
#print axioms ISnap.External.lookup_eq_some_iff
#print axioms ISnap.External.PrefixUnique.persist_self
