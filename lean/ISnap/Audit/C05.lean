import ISnap.Props.C05
#print axioms ISnap.create_only_fills_missing
#print axioms ISnap.create_keeps_existing
#print axioms ISnap.extreme_spec
#print axioms ISnap.bound_run_spec
#print axioms ISnap.plain_bound
#print axioms ISnap.kind_mm
#print axioms ISnap.bound_cats_final
#print axioms ISnap.fix_reported_iff_bound
#print axioms ISnap.trim_reported_iff_bound
#print axioms ISnap.fix_applied_all_hold_bound
#print axioms ISnap.trim_tightest_bound
#print axioms ISnap.update_keeps_value_bound
#print axioms ISnap.coll_run_spec
#print axioms ISnap.fix_trim_reported_iff_coll
#print axioms ISnap.memBy_iff
#print axioms ISnap.coll_final
#print axioms ISnap.eq_categories_run
#print axioms ISnap.eq_categories
#print axioms ISnap.intOps5_total
#print axioms ISnap.intOps5_eqv
