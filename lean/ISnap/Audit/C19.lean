import ISnap.Props.C19
#print axioms ISnap.Session.plain_configure
#print axioms ISnap.Session.inline_eq_plugin
#print axioms ISnap.Session.pending_same
#print axioms ISnap.Session.applied_eq_inline
