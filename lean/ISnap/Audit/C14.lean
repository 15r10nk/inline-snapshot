import ISnap.Props.C14
#print axioms ISnap.lookup_counters_irrelevant
#print axioms ISnap.step_lookup
#print axioms ISnap.run_lookup
#print axioms ISnap.noninterference
#print axioms ISnap.aggregate_extreme
#print axioms ISnap.aggregate_union
#print axioms ISnap.reeval_changed_argument_raises
