import ISnap.Props.C16
#print axioms ISnap.SetSort.strLe_refl
#print axioms ISnap.SetSort.mergeSort_perm_invariant
#print axioms ISnap.SetSort.sortSet_perm_invariant_text
#print axioms ISnap.SetSort.sortSet_perm_invariant_total
#print axioms ISnap.SetSort.partial_order_depends_on_iteration
#print axioms ISnap.SetSort.lexLe_eq_strLe
#print axioms ISnap.SetSort.atomsComparable_eq
#print axioms ISnap.SetSort.atomsComparable_perm
#print axioms ISnap.SetSort.pyLe_eq_numLe
#print axioms ISnap.SetSort.pyLe_eq_strAtomLe
#print axioms ISnap.SetSort.mergeSort_congr
#print axioms ISnap.SetSort.pyLe_antisymm
#print axioms ISnap.SetSort.sortAtoms_perm_invariant
#print axioms ISnap.SetSort.sortAtoms_needs_distinct
