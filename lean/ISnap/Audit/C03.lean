import ISnap.Props.C03
#print axioms ISnap.Rewrite.replaceFrom_step
#print axioms ISnap.Rewrite.replaceFrom_frame
#print axioms ISnap.Rewrite.replaceFrom_frame_explicit
#print axioms ISnap.Rewrite.replace_frame
#print axioms ISnap.Rewrite.replace_frame_chained
#print axioms ISnap.Rewrite.replace_between
#print axioms ISnap.Rewrite.replace_between_length
#print axioms ISnap.Rewrite.replaceFrom_length
#print axioms ISnap.Rewrite.replaceText_sorted_chained
#print axioms ISnap.Rewrite.replaceText_frame
#print axioms ISnap.Rewrite.lineToOffset_offsetToLine_clamp
#print axioms ISnap.Rewrite.lineToOffset_offsetToLine
#print axioms ISnap.Rewrite.offsetToLine_canonical
#print axioms ISnap.Rewrite.lineToOffset_le
#print axioms ISnap.Rewrite.lineToOffset_mono_col
#print axioms ISnap.Rewrite.lineToOffset_mono
#print axioms ISnap.Rewrite.canon_inLine
#print axioms ISnap.Rewrite.lineToOffset_inj
#print axioms ISnap.Rewrite.checkSorted_chained_inLines
#print axioms ISnap.Rewrite.checkSorted_chained
#print axioms ISnap.Rewrite.sortRepls_pairwise
#print axioms ISnap.Rewrite.newcode_offsets_chained
#print axioms ISnap.Rewrite.newcode_offsets_chained_inLines
#print axioms ISnap.Rewrite.replaceText_two_insertions
#print axioms ISnap.Rewrite.newcode_unformatted
#print axioms ISnap.Rewrite.newcode_formatted
#print axioms ISnap.Rewrite.newcode_two_insertions
#print axioms ISnap.Rewrite.newcode_overlap_rejected
#print axioms ISnap.Rewrite.newcode_none_iff
#print axioms ISnap.Rewrite.newcode_dirty_eq
#print axioms ISnap.Rewrite.newcode_outside_preserved
#print axioms ISnap.Rewrite.newcode_outside_preserved_explicit
#print axioms ISnap.Rewrite.exSwap
#print axioms ISnap.Rewrite.exRepls_sorted
#print axioms ISnap.Rewrite.exRepls_canon
#print axioms ISnap.Rewrite.exFmt_dirty
#print axioms ISnap.Rewrite.exNewCode
