import ISnap.Props.C09b
#print axioms ISnap.CallAssign.oldOne_compose
#print axioms ISnap.CallAssign.oldOne_inserted
#print axioms ISnap.CallAssign.runCall_compose
#print axioms ISnap.CallAssign.call_order_independent
#print axioms ISnap.CallAssign.runCall_commute
