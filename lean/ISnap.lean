import ISnap.Model.Sexp
import ISnap.Model.Basic
import ISnap.Model.Site
import ISnap.Model.Table
import ISnap.Model.Value
import ISnap.Model.Align
import ISnap.Model.StrLit
import ISnap.Model.Rewrite
import ISnap.Model.Assign
import ISnap.Model.CallAssign
import ISnap.Model.Session
import ISnap.Model.External
import ISnap.Model.Finish
import ISnap.Model.SetSort
import ISnap.Model.SeqEdit
import ISnap.Model.Nest

import ISnap.Driver.SiteCmd
import ISnap.Driver.AlignCmd
import ISnap.Driver.StrCmd
import ISnap.Driver.RewriteCmd
import ISnap.Driver.AssignCmd
import ISnap.Driver.CallCmd
import ISnap.Driver.SessionCmd
import ISnap.Driver.ExternalCmd
import ISnap.Driver.FinishCmd
import ISnap.Driver.SetCmd
import ISnap.Driver.SeqCmd
import ISnap.Driver.NestCmd

import ISnap.Lemmas.Ite
import ISnap.Lemmas.LexOrder
import ISnap.Lemmas.Weave
import ISnap.Lemmas.SiteStep
import ISnap.Lemmas.TableOps
import ISnap.Lemmas.SiteRun
import ISnap.Lemmas.AlignLemmas
import ISnap.Lemmas.AlignAnchor
import ISnap.Lemmas.RewriteLemmas
import ISnap.Lemmas.StrLitLemmas
import ISnap.Lemmas.SessionLemmas
import ISnap.Lemmas.AssignVal
import ISnap.Lemmas.AssignCore
import ISnap.Lemmas.AssignLemmas
import ISnap.Lemmas.CallLemmas
import ISnap.Lemmas.CallCompose
import ISnap.Lemmas.ExternalLemmas
import ISnap.Lemmas.FinishLemmas
import ISnap.Lemmas.SeqEditLemmas
import ISnap.Lemmas.NestLemmas

import ISnap.Props.C01
import ISnap.Props.C02
import ISnap.Props.C03
import ISnap.Props.C03b
import ISnap.Props.C03c
import ISnap.Props.C04
import ISnap.Props.C05
import ISnap.Props.C05b
import ISnap.Props.C06
import ISnap.Props.C06b
import ISnap.Props.C07
import ISnap.Props.C08
import ISnap.Props.C09
import ISnap.Props.C09b
import ISnap.Props.C10
import ISnap.Props.C10b
import ISnap.Props.C11
import ISnap.Props.C11b
import ISnap.Props.C11c
import ISnap.Props.C11d
import ISnap.Props.C12
import ISnap.Props.C13
import ISnap.Props.C14
import ISnap.Props.C15
import ISnap.Props.C16
import ISnap.Props.C17
import ISnap.Props.C18
import ISnap.Props.C18b
import ISnap.Props.C19
import ISnap.Props.C20

-- The modules under ISnap/Audit (`#print axioms` of the claimed theorems) are not listed: each is checked on its own.
